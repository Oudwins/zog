-- Root of the `Zog` library: the model, the generated tables/facts, the property theorems.
import Zog.Basic
import Zog.Sexp
import Zog.Schema
import Zog.Struct
import Zog.Zero
import Zog.Path
import Zog.IssueMap
import Zog.Msg
import Zog.Coerce
import Zog.Preds
import Zog.PredsLaws
import Zog.Engine
import Zog.Spec
import Zog.Refine
import Zog.Laws
import Zog.Context
import Zog.Built
import Zog.Traversal
import Zog.Loops
import Zog.Order
import Zog.Atoi
import Zog.CoerceLaws
import Zog.Views
import Zog.Exact
import Zog.Alias
import Zog.Issues
import Zog.Regex
import Zog.Agree
import Zog.Placed
import Zog.Builder
import Zog.BuilderLaws
import Zog.Helpers
import Zog.HelpersSim
import Zog.Http
import Zog.HttpLaws
import Zog.Pool
import Zog.CtxVals
import Zog.ParamsOrder
import Zog.Dyn
import Zog.Wire
import Zog.Gen.Tables
import Zog.Gen.Facts
import Zog.Gen.Catalogue
import Zog.Gen.Regex
import Zog.Props.FactsOK
import Zog.Props.C01
import Zog.Props.C02
import Zog.Props.C03
import Zog.Props.C04
import Zog.Props.C05
import Zog.Props.C06
import Zog.Props.C07
import Zog.Props.C08
import Zog.Props.C09
import Zog.Props.C10
import Zog.Props.C11
import Zog.Props.C12
import Zog.Props.C13
import Zog.Props.C14
import Zog.Props.C15
import Zog.Props.C16
import Zog.Props.C17
import Zog.Props.C18
import Zog.Props.C19
import Zog.Props.C20
