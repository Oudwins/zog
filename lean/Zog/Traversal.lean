import Zog.Built

/-!
# The traversal is built

`proc_built`: `Spec.proc` lies in the closure `Built`, every filed issue comes from the schema
(`IssueFrom`) and every logged event from a node at or below the one that ran (`EvBelow`). What the
traversal does to the state is read off it (`proc_grows`, `proc_cleanLocal`); files that need no more
than locality take `proc_tame`.
-/

namespace Zog
namespace Spec
open Engine (Prov)

mutual
/-- `t` is one of the tests declared in the schema (Required and NotNil tests included) -/
def _root_.Zog.Schema.HasTest : Schema → Test → Prop
  | .prim p, t => t ∈ p.required.toList ++ p.tests
  | .slice elem sm, t => t ∈ sm.required.toList ++ sm.tests ∨ elem.HasTest t
  | .ptr elem _ nn, t => t ∈ nn.toList ∨ elem.HasTest t
  | .struct fs tests _, t => t ∈ tests ∨ fs.HasTest t
  | .custom c, t => t = c.test
  | .pre _ inner, t => inner.HasTest t
def _root_.Zog.Fields.HasTest : Fields → Test → Prop
  | .nil, _ => False
  | .cons _ _ s rest, t => s.HasTest t ∨ rest.HasTest t
end

def postsReturn (posts : List Post) (e : PostErr) : Prop := ∃ p ∈ posts, ∃ x, (p.run x).2 = some e

mutual
/-- a PostTransform or Preprocess function of the schema can return the error `e` -/
def _root_.Zog.Schema.Returns : Schema → PostErr → Prop
  | .prim p, e => postsReturn p.posts e
  | .slice elem sm, e => postsReturn sm.posts e ∨ elem.Returns e
  | .ptr elem _ _, e => elem.Returns e
  | .struct fs _ posts, e => postsReturn posts e ∨ fs.Returns e
  | .custom _, _ => False
  | .pre ps inner, e => (∃ v, (ps.run v).2 = some e) ∨ inner.Returns e
def _root_.Zog.Fields.Returns : Fields → PostErr → Prop
  | .nil, _ => False
  | .cons _ _ s rest, e => s.Returns e ∨ rest.Returns e
end

/-- the issues the node `s` run at `path` can file: built by one of the four issue constructors, at
    the path of a node at or below, for a test of the schema or an error one of its callbacks returns -/
inductive IssueFrom (env : Env) (s : Schema) (path : List String) : Issue → Prop
  | test {p : List String} (hp : path <+: p) (dt : String) {t : Test} (h : s.HasTest t) :
      IssueFrom env s path (issueOfTest env (render p) dt t)
  | coerce {p : List String} (hp : path <+: p) (dt : String) : IssueFrom env s path (coerceIssue env (render p) dt)
  | postErr {p : List String} (hp : path <+: p) (dt : String) {e : PostErr} (h : s.Returns e) :
      IssueFrom env s path (issueOfPostErr env (render p) dt e)
  | preErr {p : List String} (hp : path <+: p) (dt msg : String) : IssueFrom env s path (preErrIssue env (render p) dt msg)

theorem IssueFrom.lift {env : Env} {s' s : Schema} {path' path : List String} {i : Issue} (hp : path <+: path')
    (hT : ∀ t, s'.HasTest t → s.HasTest t) (hR : ∀ e, s'.Returns e → s.Returns e)
    (h : IssueFrom env s' path' i) : IssueFrom env s path i := by
  cases h with
  | test hp' dt h => exact .test (hp.trans hp') dt (hT _ h)
  | coerce hp' dt => exact .coerce (hp.trans hp') dt
  | postErr hp' dt h => exact .postErr (hp.trans hp') dt (hR _ h)
  | preErr hp' dt msg => exact .preErr (hp.trans hp') dt msg

/-- the event belongs to a node at or below `root` -/
def EvBelow (root : List String) (e : Event) : Prop := ∃ suffix : List String, e.path = render (root ++ suffix)

theorem EvBelow.here (root : List String) (k : EvKind) (id : Nat) (x : DVal) : EvBelow root ⟨k, id, render root, x⟩ :=
  ⟨[], by simp⟩

theorem EvBelow.lift {root root' : List String} (hp : root <+: root') {e : Event} (h : EvBelow root' e) : EvBelow root e := by
  obtain ⟨sfx, rfl⟩ := hp
  obtain ⟨suffix, h⟩ := h
  exact ⟨sfx ++ suffix, by simpa [List.append_assoc] using h⟩

theorem Built.lift {env : Env} {gated : Bool} {α : Type} {f : St → α × St} {s' s : Schema} {path' path : List String}
    (h : Built (IssueFrom env s' path') (EvBelow path') gated f) (hp : path <+: path')
    (hT : ∀ t, s'.HasTest t → s.HasTest t) (hR : ∀ e, s'.Returns e → s.Returns e) :
    Built (IssueFrom env s path) (EvBelow path) gated f :=
  h.mono (fun _ => IssueFrom.lift hp hT hR) (fun _ => EvBelow.lift hp)

theorem _root_.Zog.Fields.find_hasTest {fs : Fields} {key k : String} {fm : FieldMeta} {s : Schema} (hf : fs.find key = some (k, fm, s))
    (t : Test) (h : s.HasTest t) : fs.HasTest t :=
  (Fields.find_induct (P := fun fs _ _ s => s.HasTest t → fs.HasTest t) Or.inl (fun ih h => Or.inr (ih h)) fs key k fm s hf).2 h

theorem _root_.Zog.Fields.find_returns {fs : Fields} {key k : String} {fm : FieldMeta} {s : Schema} (hf : fs.find key = some (k, fm, s))
    (e : PostErr) (h : s.Returns e) : fs.Returns e :=
  (Fields.find_induct (P := fun fs _ _ s => s.Returns e → fs.Returns e) Or.inl (fun ih h => Or.inr (ih h)) fs key k fm s hf).2 h

section
variable {env : Env} {PI : Issue → Prop} {PE : Event → Prop} {gated : Bool}

theorem testAll_built {α : Type} (a : α) (dt ps : String) (x : DVal) :
    ∀ tests : List Test, (∀ t ∈ tests, PI (issueOfTest env ps dt t)) → (∀ k id, PE ⟨k, id, ps, x⟩) →
      Built PI PE gated (fun st => (a, testAll env dt ps tests x st))
  | [] => fun _ _ => .ret a
  | t :: ts => fun hi he => by
    have ih : Built PI PE gated _ := testAll_built a dt ps x ts (fun t h => hi t (.tail _ h)) he
    simp only [testAll]
    by_cases hp : t.pred x = true
    · simp only [hp, ↓reduceIte]
      exact ih.afterLogIf t.cb _ (he _ _)
    · simp only [hp, Bool.false_eq_true, ↓reduceIte]
      exact (ih.afterEmit _ (hi t (.head _))).afterLogIf t.cb _ (he _ _)

theorem testCatch_built (ps : String) (c x : DVal) (he : ∀ k id, PE ⟨k, id, ps, x⟩) :
    ∀ tests : List Test, Built PI PE gated (fun st => testCatch ps c tests x st)
  | [] => .ret x
  | t :: ts => by
    simp only [testCatch]
    by_cases hp : t.pred x = true
    · simp only [hp, ↓reduceIte]
      exact (testCatch_built ps c x he ts).afterLogIf t.cb _ (he _ _)
    · simp only [hp, Bool.false_eq_true, ↓reduceIte]
      exact (Built.ret c).afterLogIf t.cb _ (he _ _)

theorem tested_built (dt ps : String) (ctch : Option DVal) (tests : List Test) (x : DVal)
    (hi : ∀ t ∈ tests, PI (issueOfTest env ps dt t)) (he : ∀ k id, PE ⟨k, id, ps, x⟩) :
    Built PI PE gated (fun st => tested env dt ps ctch tests x st) := by
  unfold tested
  cases ctch with
  | some c => exact testCatch_built ps c x he tests
  | none => exact testAll_built x dt ps x tests hi he

theorem primBody_built (m : Mode) (p : Prim) (path : List String) (v : Val) (d : DVal)
    (hi : ∀ t ∈ p.required.toList ++ p.tests, PI (issueOfTest env (render path) p.kind.dtype t))
    (hc : PI (coerceIssue env (render path) p.kind.dtype)) (he : ∀ k id x, PE ⟨k, id, render path, x⟩) :
    Built PI PE gated (fun st => primBody env m p path v d st) := by
  refine primBody_cases (motive := Built PI PE gated) env m p path v d (fun x _ => ?_) (fun _ _ _ => .ret d) (fun i hi' => ?_)
  · exact tested_built p.kind.dtype (render path) p.ctch p.tests x (fun t h => hi t (List.mem_append_right _ h)) (fun k id => he k id x)
  · have : PI i := by
      rcases hi' with ⟨_, _, r, hr, rfl⟩ | ⟨_, _, _, rfl⟩
      · exact hi r (by simp [hr])
      · exact hc
    cases p.ctch with
    | some c => exact .ret c
    | none => exact .emit d i this

theorem postLoop_built (dt ps : String) :
    ∀ (posts : List Post) (x : DVal), (∀ p ∈ posts, ∀ x e, (p.run x).2 = some e → PI (issueOfPostErr env ps dt e)) →
      (∀ k id x, PE ⟨k, id, ps, x⟩) → Built PI PE gated (fun st => postLoop env dt ps posts x st)
  | [] => fun x _ _ => .ret x
  | p :: rest => fun x hi he => by
    simp only [postLoop]
    rcases hr : p.run x with ⟨x', e⟩
    cases e with
    | none => exact .afterLog _ _ (he _ _ _) (postLoop_built dt ps rest x' (fun q h => hi q (.tail _ h)) he)
    | some e => exact .afterLog _ _ (he _ _ _) (.emit x' _ (hi p (.head _) x e (by rw [hr])))

theorem gatePosts_built (dt ps : String) (posts : List Post) (a : DVal) (hg : gated = true)
    (hi : ∀ p ∈ posts, ∀ x e, (p.run x).2 = some e → PI (issueOfPostErr env ps dt e)) (he : ∀ k id x, PE ⟨k, id, ps, x⟩) :
    Built PI PE gated (fun st => gatePosts env dt ps posts a st) :=
  .gate a _ hg (postLoop_built dt ps posts a hi he)

theorem runPosts_built (dt ps : String) (posts : List Post) {body : St → Out} (hg : gated = true ∨ posts = [])
    (hb : Built PI PE gated body) (hi : ∀ p ∈ posts, ∀ x e, (p.run x).2 = some e → PI (issueOfPostErr env ps dt e))
    (he : ∀ k id x, PE ⟨k, id, ps, x⟩) : Built PI PE gated (fun st => runPosts env dt ps posts (body st)) := by
  rcases hg with hg | rfl
  · exact .bind body (fun a st => gatePosts env dt ps posts a st) hb (fun a => gatePosts_built dt ps posts a hg hi he)
  · simpa only [runPosts_nil] using hb

theorem sliceLoop_built (child : Child) (path : List String)
    (hc : ∀ seg v d, Built PI PE gated (fun st => child (path ++ [seg]) v d st)) :
    ∀ (xs : List (Val × DVal × Nat)) (ds : List DVal), Built PI PE gated (fun st => sliceLoop child path xs ds st)
  | [], ds => .ret ds
  | x :: rest, ds =>
    .bind _ (fun a st => sliceLoop child path rest (ds ++ [a]) st) (hc _ x.1 x.2.1) (fun _ => sliceLoop_built child path hc rest _)

theorem fieldLoop_built (step : String → DVal → St → Out) (hs : ∀ k d, Built PI PE gated (fun st => step k d st)) :
    ∀ (ks : List String) (d : DVal), Built PI PE gated (fun st => fieldLoop step ks d st)
  | [], d => .ret d
  | k :: ks, d => .bind _ (fun a st => fieldLoop step ks a st) (hs k d) (fun _ => fieldLoop_built step hs ks _)

theorem customRun_built (c : CustomSpec) (ps : String) (x : DVal)
    (hi : PI (issueOfTest env ps "custom" c.test)) (he : ∀ k id, PE ⟨k, id, ps, x⟩) :
    Built PI PE gated (fun st => customRun env c ps x st) := by
  unfold customRun
  split
  · exact .afterLog _ _ (he _ _) (.ret x)
  · exact .afterLog _ (fun st => (x, emit st _)) (he _ _) (.emit x _ hi)

end

theorem sliceFail_from (env : Env) (m : Mode) (elem : Schema) (sm : SliceMods) (path : List String) (v : Val) :
    IssueFrom env (.slice elem sm) path (sliceFail env m sm (render path) v) := by
  unfold sliceFail
  split
  · exact .coerce (List.prefix_refl _) _
  · split
    · exact .test (List.prefix_refl _) _ (Or.inl (by simp [*]))
    · exact .coerce (List.prefix_refl _) _

/-- a field list is not a schema: the bound is stated for any `s₀` that has the tests and callbacks of `fs` -/
theorem procKey_built_of {env : Env} {gated : Bool} (m : Mode) (fs : Fields) (key : String) (tag : Option String) (prov : Prov)
    (path : List String) (d : DVal) {s₀ : Schema} (hT : ∀ t, fs.HasTest t → s₀.HasTest t) (hR : ∀ e, fs.Returns e → s₀.Returns e)
    (h : ∀ k fm s, fs.find key = some (k, fm, s) → ∀ p v d, Built (IssueFrom env s p) (EvBelow p) gated (fun st => proc env m s none p v d st)) :
    Built (IssueFrom env s₀ path) (EvBelow path) gated (fun st => procKey env m fs key tag prov path d st) := by
  simp only [procKey_find]
  cases hf : fs.find key with
  | none => exact .ret d
  | some r =>
    obtain ⟨k, fm, s⟩ := r
    exact ((h k fm s hf _ _ _).lift (List.prefix_append _ _) (fun t h => hT t (Fields.find_hasTest hf t h))
      (fun e h => hR e (Fields.find_returns hf e h))).map (fun x => d.set fm.goName x)

/-- **The traversal is built.** Every issue a node files comes from the schema, at or below the
    node; every callback it logs belongs to a node at or below; a PostTransform-free schema never
    looks at the gate. -/
theorem proc_built (env : Env) (m : Mode) (gated : Bool) (s : Schema) :
    (gated = true ∨ s.postFree = true) → ∀ (tag : Option String) (path : List String) (v : Val) (d : DVal),
      Built (IssueFrom env s path) (EvBelow path) gated (fun st => proc env m s tag path v d st) := by
  induction s using Schema.induct with
  | prim p =>
    intro hg tag path v d
    simp only [proc_prim, prim]
    exact runPosts_built _ _ p.posts (Schema.gate_prim hg)
      (primBody_built m p path v d (fun t h => .test (List.prefix_refl _) _ h) (.coerce (List.prefix_refl _) _) (EvBelow.here path))
      (fun q hq x e h => .postErr (List.prefix_refl _) _ ⟨q, hq, x, h⟩) (EvBelow.here path)
  | slice elem sm ih =>
    intro hg tag path v d
    obtain ⟨hposts, helem⟩ := Schema.gate_slice hg
    have child : ∀ seg v d, Built (IssueFrom env (.slice elem sm) path) (EvBelow path) gated
        (fun st => proc env m elem none (path ++ [seg]) v d st) := fun seg v d =>
      (ih helem none _ v d).lift (List.prefix_append _ _) (fun _ h => Or.inr h) (fun _ h => Or.inr h)
    simp only [proc_slice_eq]
    refine runPosts_built _ _ sm.posts hposts ?_
      (fun q hq x e h => .postErr (List.prefix_refl _) _ (Or.inl ⟨q, hq, x, h⟩)) (EvBelow.here path)
    -- `runPosts_built` leaves its `body` β-reduced; name it again for the rewrite
    show Built _ _ _ (fun st => sliceBody env m elem sm path v d st)
    simp only [sliceBody_eq]
    cases sliceSrc m sm v d with
    | skipped => exact .ret d
    | failed => exact .emit d _ (sliceFail_from env m elem sm path v)
    | items ins ds =>
      exact .bind _ (fun r st => (DVal.slice r, testAll env "slice" (render path) sm.tests (DVal.slice r) st))
        (sliceLoop_built _ path child _ _)
        (fun r => testAll_built _ _ _ _ sm.tests
          (fun t h => .test (List.prefix_refl _) _ (Or.inl (List.mem_append_right _ h))) (fun k id => EvBelow.here path k id _))
  | ptr elem zp nn ih =>
    intro hg tag path v d
    simp only [proc_ptr]
    cases Engine.ptrAbsent m v d
    · simp only [Bool.false_eq_true, ↓reduceIte]
      exact ((ih hg tag path v _).lift (s := .ptr elem zp nn) (List.prefix_refl _) (fun _ h => Or.inr h) (fun _ h => h)).map
        (fun x => DVal.ptr (some x))
    · simp only [↓reduceIte]
      cases nn with
      | none => exact .ret d
      | some t => exact .emit d _ (.test (List.prefix_refl _) _ (Or.inl (by simp)))
  | struct fs tests posts ih =>
    intro hg tag path v d
    obtain ⟨hposts, hfs⟩ := Schema.gate_struct hg
    simp only [proc_struct_eq]
    refine runPosts_built _ _ posts hposts ?_
      (fun q hq x e h => .postErr (List.prefix_refl _) _ (Or.inl ⟨q, hq, x, h⟩)) (EvBelow.here path)
    show Built _ _ _ (fun st => structBody env m fs tests tag path v d st)
    simp only [structBody_eq]
    cases structProv m v with
    | none => exact .emit d _ (.coerce (List.prefix_refl _) _)
    | some prov =>
      exact .bind _ (fun r st => (r, testAll env "struct" (render path) tests r st))
        (fieldLoop_built _ (fun key d => procKey_built_of m fs key tag prov path d (s₀ := .struct fs tests posts) (fun _ h => Or.inr h) (fun _ h => Or.inr h)
          fun k fm s hf => ih key k fm s hf (Fields.gate_find hf hfs) none) _ _)
        (fun r => testAll_built _ _ _ _ tests (fun t h => .test (List.prefix_refl _) _ (Or.inl h)) (fun k id => EvBelow.here path k id _))
  | custom c =>
    intro _ tag path v d
    have run := fun x => customRun_built (env := env) (gated := gated) c (render path) x
      (IssueFrom.test (s := .custom c) (List.prefix_refl path) "custom" rfl) (fun k id => EvBelow.here path k id x)
    cases m <;> simp only [proc_custom]
    · cases c.accept v with
      | none => exact .emit d _ (.coerce (List.prefix_refl _) _)
      | some x => exact run x
    · exact run d
  | pre ps inner ih =>
    intro hg tag path v d
    have ih := fun v d => (ih hg tag path v d).lift (s := .pre ps inner) (List.prefix_refl _) (fun _ h => h) (fun _ h => Or.inr h)
    cases m <;> simp only [proc_pre]
    · cases ps.accept v
      · exact .emit d _ (.coerce (List.prefix_refl _) _)
      · simp only [↓reduceIte]
        rcases hr : ps.run v with ⟨v', e⟩
        cases e with
        | none => exact .afterLog _ _ (EvBelow.here path _ _ _) (ih v' d)
        | some e =>
          exact .afterLog _ (fun st => (d, emit st _)) (EvBelow.here path _ _ _)
            (.emit d _ (.postErr (List.prefix_refl _) _ (Or.inl ⟨v, by rw [hr]⟩)))
    · rcases hr : ps.runD d with ⟨d', e⟩
      cases e with
      | none => exact .afterLog _ _ (EvBelow.here path _ _ _) (ih v d')
      | some msg =>
        exact .afterLog _ (fun st => (d, emit st _)) (EvBelow.here path _ _ _) (.emit d _ (.preErr (List.prefix_refl _) _ msg))

-- for a field list on its own, `s₀` is the struct node without tests or PostTransforms of its own
theorem procKey_built (env : Env) (m : Mode) (gated : Bool) (fs : Fields) (hg : gated = true ∨ fs.postFree = true) (key : String)
    (tag : Option String) (prov : Prov) (path : List String) (d : DVal) :
    Built (IssueFrom env (.struct fs [] []) path) (EvBelow path) gated (fun st => procKey env m fs key tag prov path d st) :=
  procKey_built_of m fs key tag prov path d (fun _ h => Or.inr h) (fun _ h => Or.inr h)
    fun _ _ s hf => proc_built env m gated s (Fields.gate_find hf hg) none

/-- What a node adds to the state: issues and events are only appended; every issue comes from the
    schema, at or below the node; every event belongs to a node at or below. -/
theorem proc_grows (env : Env) (m : Mode) (s : Schema) (tag : Option String) (path : List String) (v : Val) (d : DVal) (st : St) :
    Grows (IssueFrom env s path) (EvBelow path) st (proc env m s tag path v d st).2 :=
  (proc_built env m true s (.inl rfl) tag path v d).grows st

theorem procKey_grows (env : Env) (m : Mode) (fs : Fields) (key : String) (tag : Option String) (prov : Prov) (path : List String)
    (d : DVal) (st : St) : Grows (IssueFrom env (.struct fs [] []) path) (EvBelow path) st (procKey env m fs key tag prov path d st).2 :=
  (procKey_built env m true fs (.inl rfl) key tag prov path d).grows st

/-- no node ever removes or reorders an issue recorded earlier -/
theorem proc_extends (env : Env) (m : Mode) (s : Schema) (tag : Option String) (path : List String) (v : Val) (d : DVal) (st : St) :
    Extends st (proc env m s tag path v d st).2 :=
  (proc_grows env m s tag path v d st).extends

theorem proc_tame (env : Env) (m : Mode) (gated : Bool) (s : Schema) (hg : gated = true ∨ s.postFree = true) (tag : Option String)
    (path : List String) (v : Val) (d : DVal) : Tame gated (fun st => proc env m s tag path v d st) :=
  (proc_built env m gated s hg tag path v d).tame

theorem procKey_tame (env : Env) (m : Mode) (gated : Bool) (fs : Fields) (hg : gated = true ∨ fs.postFree = true) (key : String)
    (tag : Option String) (prov : Prov) (path : List String) (d : DVal) :
    Tame gated (fun st => procKey env m fs key tag prov path d st) :=
  (procKey_built env m gated fs hg key tag prov path d).tame

/-- clean runs are local, for every schema (PostTransforms included) -/
theorem proc_cleanLocal (env : Env) (m : Mode) :
    ∀ (s : Schema) (tag : Option String) (path : List String) (v : Val) (d : DVal),
      CleanLocal (fun st => proc env m s tag path v d st) :=
  fun s tag path v d => (proc_built env m true s (.inl rfl) tag path v d).cleanLocal

/-- every callback a node logs carries the path of a node at or below it -/
theorem proc_ev (env : Env) (m : Mode) (s : Schema) (tag : Option String) (path : List String) (v : Val) (d : DVal) (st : St) :
    LogExt (EvBelow path) st (proc env m s tag path v d st).2 :=
  (proc_grows env m s tag path v d st).logExt

theorem procKey_ev (env : Env) (m : Mode) :
    ∀ (fs : Fields) (key : String) (tag : Option String) (prov : Prov) (path : List String) (d : DVal) (st : St),
      LogExt (EvBelow path) st (procKey env m fs key tag prov path d st).2 :=
  fun fs key tag prov path d st => (procKey_grows env m fs key tag prov path d st).logExt

end Spec
end Zog
