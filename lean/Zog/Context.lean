import Zog.Laws

/-!
# One-hole schema contexts and compositionality of `Spec`
`Spec.proc (C[s])` depends on `s` only through the function `Spec.proc s` (and its dtype): a parent
sees a child through nothing but the child's own output.  This is what "Catch has no effect
beyond its node" means once the flags are gone.
-/

namespace Zog

/-- a schema with one hole, at any depth below slices, pointers, Preprocess nodes and struct fields -/
inductive Ctx where
  | hole
  | slice (c : Ctx) (sm : SliceMods)
  | ptr (c : Ctx) (zp : DVal) (notNil : Option Test)
  | pre (ps : PreSpec) (c : Ctx)
  | field (before : Fields) (key : String) (fm : FieldMeta) (c : Ctx) (after : Fields)
      (tests : List Test) (posts : List Post)

def Ctx.fill : Ctx → Schema → Schema
  | .hole, s => s
  | .slice c sm, s => .slice (c.fill s) sm
  | .ptr c zp nn, s => .ptr (c.fill s) zp nn
  | .pre ps c, s => .pre ps (c.fill s)
  | .field before k fm c after tests posts, s =>
    .struct (before.append (.cons k fm (c.fill s) after)) tests posts

/-- observational equivalence of two schemas in the reference semantics -/
def SpecEquiv (env : Env) (m : Mode) (s₁ s₂ : Schema) : Prop :=
  s₁.dtype = s₂.dtype ∧
  ∀ tag path v d st, Spec.proc env m s₁ tag path v d st = Spec.proc env m s₂ tag path v d st

namespace Spec

theorem fill_dtype (c : Ctx) (s₁ s₂ : Schema) (h : s₁.dtype = s₂.dtype) :
    (c.fill s₁).dtype = (c.fill s₂).dtype := by
  induction c with
  | hole => exact h
  | slice c sm ih => rfl
  | ptr c zp nn ih => exact ih
  | pre ps c ih => exact ih
  | field => rfl

theorem procKey_congr (env : Env) (m : Mode) (after : Fields) (k : String) (fm : FieldMeta)
    (s₁ s₂ : Schema)
    (h : ∀ tag path v d st, proc env m s₁ tag path v d st = proc env m s₂ tag path v d st)
    (key : String) (tag : Option String) (prov : Engine.Prov) (path : List String) (d : DVal) (st : St) :
    ∀ before : Fields,
    procKey env m (before.append (.cons k fm s₁ after)) key tag prov path d st =
    procKey env m (before.append (.cons k fm s₂ after)) key tag prov path d st
  | .nil => by simp only [Fields.append, procKey_cons, h]
  | .cons k' fm' s' rest => by
    simp only [Fields.append, procKey_cons, procKey_congr env m after k fm s₁ s₂ h key tag prov path d st rest]

/-- **Compositionality.** Equivalent nodes are interchangeable in every context. -/
theorem fill_congr (env : Env) (m : Mode) (s₁ s₂ : Schema) (h : SpecEquiv env m s₁ s₂) :
    ∀ c : Ctx, SpecEquiv env m (c.fill s₁) (c.fill s₂) := by
  intro c
  induction c with
  | hole => exact h
  | slice c sm ih =>
    have : proc env m (c.fill s₁) none = proc env m (c.fill s₂) none := by
      funext path v d st; exact ih.2 none path v d st
    exact ⟨rfl, fun tag path v d st => by simp only [Ctx.fill, proc_slice_eq, sliceBody, this]⟩
  | ptr c zp nn ih =>
    exact ⟨ih.1, fun tag path v d st => by simp only [Ctx.fill, proc_ptr, ih.2, ih.1]⟩
  | pre ps c ih =>
    exact ⟨ih.1, fun tag path v d st => by simp only [Ctx.fill, proc_pre, ih.2, ih.1]⟩
  | field before k fm c after tests posts ih =>
    refine ⟨rfl, fun tag path v d st => ?_⟩
    have hp := fun key tag prov path d st =>
      procKey_congr env m after k fm _ _ ih.2 key tag prov path d st before
    simp only [Ctx.fill, proc_struct_eq, structBody, structFields, Fields.keys_append, Fields.keys, hp]

end Spec
end Zog
