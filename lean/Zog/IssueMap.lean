import Zog.Path

/-!
# The issue map is empty only for no issues
`ErrsMap.Add` never empties a map and the first `Add` seeds `$first`, so the map a caller receives
is nil exactly when no issue was recorded (C02, C10).
-/

namespace Zog

theorem IssueMap.append_ne_nil (m : IssueMap) (k : String) (i : Issue) : IssueMap.append m k i ≠ [] := by
  cases m with
  | nil => exact List.cons_ne_nil _ _
  | cons p rest =>
    rw [IssueMap.append]
    split <;> exact List.cons_ne_nil _ _

theorem IssueMap.add_ne_nil (m : IssueMap) (i : Issue) : IssueMap.add m i ≠ [] := by
  unfold IssueMap.add
  split <;> exact IssueMap.append_ne_nil _ _ _

/-- the first `Add` finds the map empty and seeds `$first` -/
theorem toIssueMap_cons (i : Issue) (rest : List Issue) :
    toIssueMap (i :: rest) = (i :: rest).foldl IssueMap.add [(firstKey, [i])] := rfl

theorem toIssueMap_eq_nil (is : List Issue) : toIssueMap is = [] ↔ is = [] := by
  cases is with
  | nil => exact ⟨fun _ => rfl, fun _ => rfl⟩
  | cons i rest =>
    rw [toIssueMap_cons]
    exact ⟨fun e => absurd e (List.foldlRecOn _ IssueMap.add (motive := (· ≠ [])) (List.cons_ne_nil _ _)
      fun m _ i _ => IssueMap.add_ne_nil m i), nofun⟩

end Zog
