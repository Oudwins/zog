/-!
# Aliasing: copies of a slice Default   — C19
Go values with reference identity, as far as slices go: a value is a leaf or a slice whose
backing array lives at an ADDRESS and holds further values. Two values alias when they mention
the same address; an in-place write at an address changes every value that mentions it.
`deepCopy` (what `SliceSchema.validate` does with its Default) relabels every array with a fresh
address; `shallowCopy`, a one-level copy, relabels the outer array only (defect D29).
Core-only.
-/

namespace Zog
namespace Alias

/-- a Go value unfolded from the heap, every array annotated with its address -/
inductive HV where
  | leaf (n : Int)
  | arr (addr : Nat) (cells : List HV)

mutual
/-- addresses mentioned by a value -/
def addrs : HV → List Nat
  | .leaf _ => []
  | .arr a cs => a :: addrsL cs
def addrsL : List HV → List Nat
  | [] => []
  | c :: cs => addrs c ++ addrsL cs
end

mutual
/-- the abstract value: addresses forgotten (what `reflect.DeepEqual` compares) -/
def sameShape : HV → HV → Bool
  | .leaf a, .leaf b => a == b
  | .arr _ cs, .arr _ ds => sameShapeL cs ds
  | _, _ => false
def sameShapeL : List HV → List HV → Bool
  | [], [] => true
  | c :: cs, d :: ds => sameShape c d && sameShapeL cs ds
  | _, _ => false
end

mutual
/-- `internals.DeepCopy`: every array gets a fresh address (`next` is the allocator) -/
def deepCopy (next : Nat) : HV → HV × Nat
  | .leaf n => (.leaf n, next)
  | .arr _ cs =>
    let r := deepCopyL (next + 1) cs
    (.arr next r.1, r.2)
def deepCopyL (next : Nat) : List HV → List HV × Nat
  | [] => ([], next)
  | c :: cs =>
    let r := deepCopy next c
    let rs := deepCopyL r.2 cs
    (r.1 :: rs.1, rs.2)
end

/-- `reflect.Copy` into a fresh slice: a new outer array, the cells are the same values -/
def shallowCopy (next : Nat) : HV → HV × Nat
  | .leaf n => (.leaf n, next)
  | .arr _ cs => (.arr next cs, next + 1)

def setCell : List HV → Nat → HV → List HV
  | [], _, _ => []
  | _ :: cs, 0, x => x :: cs
  | c :: cs, i + 1, x => c :: setCell cs i x

mutual
/-- an in-place write `array(addr)[i] = x`, as seen by a value: every mention of `addr` changes -/
def write (addr i : Nat) (x : HV) : HV → HV
  | .leaf n => .leaf n
  | .arr a cs =>
    let cs' := writeL addr i x cs
    if a = addr then .arr a (setCell cs' i x) else .arr a cs'
def writeL (addr i : Nat) (x : HV) : List HV → List HV
  | [] => []
  | c :: cs => write addr i x c :: writeL addr i x cs
end

/-! ## copying preserves the value and allocates exactly the next addresses -/

mutual
theorem deepCopy_shape (next : Nat) : ∀ v : HV, sameShape (deepCopy next v).1 v = true
  | .leaf n => beq_self_eq_true n
  | .arr _ cs => deepCopyL_shape (next + 1) cs
theorem deepCopyL_shape (next : Nat) : ∀ cs : List HV, sameShapeL (deepCopyL next cs).1 cs = true
  | [] => rfl
  | c :: cs => (Bool.and_eq_true _ _).mpr ⟨deepCopy_shape next c, deepCopyL_shape _ cs⟩
end

mutual
/-- the allocator advances by one per array copied -/
theorem deepCopy_next (next : Nat) : ∀ v : HV, (deepCopy next v).2 = next + (addrs v).length
  | .leaf _ => rfl
  | .arr _ cs => (deepCopyL_next (next + 1) cs).trans (Nat.succ_add_eq_add_succ next _)
theorem deepCopyL_next (next : Nat) : ∀ cs : List HV, (deepCopyL next cs).2 = next + (addrsL cs).length
  | [] => rfl
  | c :: cs => by
    -- `show` unfolds the mutual definitions one step, here and below
    show (deepCopyL (deepCopy next c).2 cs).2 = next + (addrs c ++ addrsL cs).length
    rw [deepCopyL_next, deepCopy_next, List.length_append, Nat.add_assoc]
end

mutual
/-- the arrays of the copy sit at consecutive addresses from `next` on, in the order `addrs` lists them -/
theorem deepCopy_addrs (next : Nat) : ∀ v : HV, addrs (deepCopy next v).1 = List.range' next (addrs v).length
  | .leaf _ => rfl
  | .arr _ cs => by
    show next :: addrsL (deepCopyL (next + 1) cs).1 = List.range' next ((addrsL cs).length + 1)
    rw [deepCopyL_addrs, List.range'_succ]
theorem deepCopyL_addrs (next : Nat) : ∀ cs : List HV, addrsL (deepCopyL next cs).1 = List.range' next (addrsL cs).length
  | [] => rfl
  | c :: cs => by
    show addrs (deepCopy next c).1 ++ addrsL (deepCopyL (deepCopy next c).2 cs).1 =
      List.range' next (addrs c ++ addrsL cs).length
    rw [deepCopy_addrs, deepCopyL_addrs, deepCopy_next, List.length_append, List.range'_append_1]
end

/-- every address of the copy was allocated by the copy -/
theorem deepCopy_fresh (next : Nat) (v : HV) (b : Nat) (h : b ∈ addrs (deepCopy next v).1) :
    next ≤ b ∧ b < (deepCopy next v).2 := by
  rw [deepCopy_addrs, List.mem_range'_1] at h
  rwa [deepCopy_next]

/-! ## a write only reaches values that mention its address -/

mutual
theorem write_frame (addr i : Nat) (x : HV) : ∀ v : HV, addr ∉ addrs v → write addr i x v = v
  | .leaf _ => fun _ => rfl
  | .arr a cs => fun h => by
    have ⟨ha, hcs⟩ : addr ≠ a ∧ addr ∉ addrsL cs := not_or.mp (mt List.mem_cons.mpr h)
    show (if a = addr then HV.arr a (setCell (writeL addr i x cs) i x) else HV.arr a (writeL addr i x cs)) =
      HV.arr a cs
    rw [writeL_frame addr i x cs hcs, if_neg (Ne.symm ha)]
theorem writeL_frame (addr i : Nat) (x : HV) : ∀ cs : List HV, addr ∉ addrsL cs → writeL addr i x cs = cs
  | [] => fun _ => rfl
  | c :: cs => fun h => by
    have ⟨hc, hcs⟩ : addr ∉ addrs c ∧ addr ∉ addrsL cs := not_or.mp (mt List.mem_append.mpr h)
    show write addr i x c :: writeL addr i x cs = c :: cs
    rw [write_frame addr i x c hc, writeL_frame addr i x cs hcs]
end

/-- a sequence of in-place writes -/
def writes (ws : List (Nat × Nat × HV)) (v : HV) : HV :=
  ws.foldl (fun acc w => write w.1 w.2.1 w.2.2 acc) v

theorem writes_frame (ws : List (Nat × Nat × HV)) (v : HV) (h : ∀ w ∈ ws, w.1 ∉ addrs v) : writes ws v = v := by
  induction ws with
  | nil => rfl
  | cons w ws ih =>
    have ⟨hw, hws⟩ := List.forall_mem_cons.mp h
    rw [writes, List.foldl_cons, write_frame _ _ _ _ hw]
    exact ih hws

/-- **The schema's default is out of reach of the destination.** Every address the default mentions is
    below `next`; then no sequence of in-place writes at addresses from `next` on (where `deepCopy next`
    allocates: `deepCopy_fresh`) changes the default, whatever is written, at whatever depth. -/
theorem default_out_of_reach (dflt : HV) (next : Nat) (hd : ∀ a ∈ addrs dflt, a < next)
    (ws : List (Nat × Nat × HV)) (hw : ∀ w ∈ ws, next ≤ w.1) :
    writes ws dflt = dflt :=
  writes_frame ws dflt fun w hm ha => Nat.lt_irrefl _ (Nat.lt_of_lt_of_le (hd _ ha) (hw w hm))

/-! ## the one-level copy does share (defect D29) -/

def leafAt : HV → List Nat → Option Int
  | .leaf n, [] => some n
  | .arr _ cs, i :: rest => match cs[i]? with
    | some c => leafAt c rest
    | none => none
  | _, _ => none

/-- a nested default `[[1, 2]]` at addresses 0 (outer) and 1 (inner); the validated value is a
    ONE-LEVEL copy (new outer array 2, same inner array 1); the PostTransform writes
    `value[0][0] = 9`, i.e. into array 1 — and the default now reads 9 -/
theorem shallow_copy_shares :
    let dflt := HV.arr 0 [HV.arr 1 [.leaf 1, .leaf 2]]
    let copy := (shallowCopy 2 dflt).1
    1 ∈ addrs copy ∧ leafAt dflt [0, 0] = some 1 ∧ leafAt (write 1 0 (.leaf 9) dflt) [0, 0] = some 9 := by
  decide +kernel

/-- the same scenario with the deep copy: the write goes to the copy's own inner array (address 3) -/
theorem deep_copy_does_not_share :
    let dflt := HV.arr 0 [HV.arr 1 [.leaf 1, .leaf 2]]
    let copy := (deepCopy 2 dflt).1
    addrs copy = [2, 3] ∧ leafAt (write 3 0 (.leaf 9) dflt) [0, 0] = some 1 ∧
      leafAt (write 3 0 (.leaf 9) copy) [0, 0] = some 9 := by
  decide +kernel

end Alias
end Zog
