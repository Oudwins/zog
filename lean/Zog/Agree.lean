import Zog.Laws

/-!
# Parse / Validate agreement on the whole tree  (C13)

`Pres s v d d0`: the input `v` is the map presentation of the fully populated value `d` for the
schema `s`, and `d0` is the fresh destination Parse starts from.  `agree` proves, by induction
over the schema, that parsing `v` into `d0` and validating `d` in place
produce the *same* destination, the *same* issue list and the *same* callback log — at every
depth, with tests, Catch, PostTransforms and struct/slice level tests included (`Pres` asks for
present values, so Defaults do not fire; Validate does not read its input, so `v'` is arbitrary).
-/

namespace Zog

namespace Spec
open Engine (Prov)

mutual
/-- `v` presents the populated value `d` (Parse starts from `d0`) -/
def Pres : Schema → Val → DVal → DVal → Prop
  | .prim p, v, d, _ => isParseZero v = false ∧ isZeroD d = false ∧ p.coerce v = some d
  | .slice elem sm, v, d, _ =>
      isParseZero v = false ∧ ∃ xs ds, sm.coerce v = some xs ∧ d = .slice ds ∧ ds ≠ [] ∧ xs.length = ds.length ∧
        ∀ p ∈ xs.zip ds, Pres elem p.1 p.2 sm.zeroElem
  | .ptr elem zp _, v, d, d0 => isParseZero v = false ∧ ∃ x, d = .ptr (some x) ∧ Pres elem v x (d0.pointee zp)
  | .struct fs _ _, v, d, d0 =>
      ∃ kvs fsd fs0, v = .obj kvs ∧ kvs ≠ [] ∧ d = .struct fsd ∧ d0 = .struct fs0 ∧
        fs0.map Prod.fst = fsd.map Prod.fst ∧ (fsd.map Prod.fst).Nodup ∧ (∀ n ∈ fsd.map Prod.fst, n ∈ fs.goNames) ∧
        PresFields fs kvs d d0
  | .custom c, v, d, _ => c.accept v = some d
  /- a Preprocess function is written for ONE mode (Parse: `F` is the input's type; Validate: `F` is a
     pointer to the destination), so a Preprocess node is outside "the same schema in both modes" -/
  | .pre _ _, _, _, _ => False
def PresFields : Fields → List (String × Val) → DVal → DVal → Prop
  | .nil, _, _, _ => True
  | .cons k fm s rest, kvs, d, d0 =>
      Pres s ((lookupD kvs (Engine.keyFor none fm k)).getD .nil) (d.get fm.goName) (d0.get fm.goName) ∧
      PresFields rest kvs d d0
end

theorem presFields_find (kvs : List (String × Val)) (d d0 : DVal) (fs : Fields) (key k : String) (fm : FieldMeta) (s : Schema)
    (hp : PresFields fs kvs d d0) (h : fs.find key = some (k, fm, s)) :
    Pres s ((lookupD kvs (Engine.keyFor none fm k)).getD .nil) (d.get fm.goName) (d0.get fm.goName) :=
  (Fields.find_induct
    (P := fun fs k fm s => PresFields fs kvs d d0 → Pres s ((lookupD kvs (Engine.keyFor none fm k)).getD .nil) (d.get fm.goName) (d0.get fm.goName))
    (fun h => h.1) (fun ih h => ih h.2) fs key k fm s h).2 hp

theorem primBody_agree (env : Env) (p : Prim) (path : List String) (v v' : Val) (x d0 : DVal) (st : St)
    (hpres : isParseZero v = false) (hco : p.coerce v = some x) (hnz : isZeroD x = false) :
    primBody env .parse p path v d0 st = primBody env .validate p path v' x st := by
  unfold primBody
  simp [Engine.primAbsent, hpres, hco, hnz]

theorem ptr_agree (env : Env) (elem : Schema) (zp : DVal) (nn : Option Test) (tag : Option String) (path : List String)
    (v v' : Val) (x d0 : DVal) (st : St) (hpres : isParseZero v = false)
    (ih : proc env .parse elem tag path v (d0.pointee zp) st = proc env .validate elem tag path v' x st) :
    proc env .parse (.ptr elem zp nn) tag path v d0 st = proc env .validate (.ptr elem zp nn) tag path v' (.ptr (some x)) st := by
  simp only [proc_ptr, Engine.ptrAbsent, hpres, DVal.isNilPtr, Bool.false_eq_true, ↓reduceIte, ih]
  rfl

/-- same field names position by position; equal values on the fields already visited -/
inductive Rel (done : List String) : List (String × DVal) → List (String × DVal) → Prop
  | nil : Rel done [] []
  | cons {a b : String × DVal} {fp fv : List (String × DVal)} :
      (a.1 = b.1 ∧ (a.1 ∈ done → a.2 = b.2)) → Rel done fp fv → Rel done (a :: fp) (b :: fv)

theorem rel_names {done : List String} {fp fv : List (String × DVal)} (h : Rel done fp fv) :
    fp.map Prod.fst = fv.map Prod.fst := by
  induction h with
  | nil => rfl
  | cons hab _ ih => simp [hab.1, ih]

/-- Two runs of a struct's field loop (mode, provider and tag may differ) on destinations with the
    same distinct fields come out equal when, for every key still to be visited, the two child runs
    agree on what its Go field holds now, and the destinations agree on every field no such key
    addresses: a visit writes the child's output to both sides and touches no other key's field. -/
theorem fieldLoop_agree (env : Env) (fs : Fields) (hinj : fs.GoNamesInj) (m₁ m₂ : Mode) (tag₁ tag₂ : Option String)
    (prov₁ prov₂ : Prov) (path : List String) :
    ∀ (ks : List String) (f₁ f₂ : List (String × DVal)) (st : St), ks.Nodup →
      f₁.map Prod.fst = f₂.map Prod.fst → (f₂.map Prod.fst).Nodup →
      (∀ k ∈ ks, ∀ k' fm s, fs.find k = some (k', fm, s) → ∀ st,
        proc env m₁ s none (path ++ [fieldKeyOf m₁ tag₁ prov₁ fm k']) (fieldInput m₁ prov₁ (fieldKeyOf m₁ tag₁ prov₁ fm k'))
          ((DVal.struct f₁).get fm.goName) st =
        proc env m₂ s none (path ++ [fieldKeyOf m₂ tag₂ prov₂ fm k']) (fieldInput m₂ prov₂ (fieldKeyOf m₂ tag₂ prov₂ fm k'))
          ((DVal.struct f₂).get fm.goName) st) →
      (∀ n ∈ f₂.map Prod.fst, (∀ k ∈ ks, ∀ k' fm s, fs.find k = some (k', fm, s) → fm.goName ≠ n) →
        (DVal.struct f₁).get n = (DVal.struct f₂).get n) →
      fieldLoop (fun k d st => procKey env m₁ fs k tag₁ prov₁ path d st) ks (.struct f₁) st =
      fieldLoop (fun k d st => procKey env m₂ fs k tag₂ prov₂ path d st) ks (.struct f₂) st
  | [] => fun f₁ f₂ st _ hn hnd _ hsync => by
    -- each side is the table of what `get` reads from it
    have : f₁ = f₂ := by
      rw [struct_eq_table f₁ (hn ▸ hnd), struct_eq_table f₂ hnd, hn]
      exact List.map_congr_left fun n hm => by rw [hsync n hm (by simp)]
    rw [this]; rfl
  | k :: ks => fun f₁ f₂ st hks hn hnd hag hsync => by
    obtain ⟨hk, hks⟩ := List.nodup_cons.mp hks
    simp only [fieldLoop]
    rw [procKey_find, procKey_find]
    cases hf : fs.find k with
    | none =>
      exact fieldLoop_agree env fs hinj m₁ m₂ tag₁ tag₂ prov₁ prov₂ path ks f₁ f₂ st hks hn hnd
        (fun k2 h2 => hag k2 (List.mem_cons_of_mem _ h2))
        (fun n hm hp => hsync n hm (List.forall_mem_cons.mpr ⟨by simp [hf], hp⟩))
    | some found =>
      obtain ⟨k', fm, s⟩ := found
      simp only [hag k List.mem_cons_self k' fm s hf]
      refine fieldLoop_agree env fs hinj m₁ m₂ tag₁ tag₂ prov₁ prov₂ path ks (setD f₁ fm.goName _) (setD f₂ fm.goName _) _ hks
        (by rw [setD_names, setD_names, hn]) (by rw [setD_names]; exact hnd) ?_ ?_
      · intro k2 h2 k2' fm2 s2 hf2
        have hne : fm2.goName ≠ fm.goName := hinj k2 k k2' fm2 s2 k' fm s hf2 hf (fun e => hk (e ▸ h2))
        rw [get_setD_other _ _ _ _ hne, get_setD_other _ _ _ _ hne]
        exact hag k2 (List.mem_cons_of_mem _ h2) k2' fm2 s2 hf2
      · intro n hm hp
        rw [setD_names] at hm
        by_cases hng : n = fm.goName
        · exact hng ▸ get_setD_self hn _ _ (hng ▸ hm)
        · rw [get_setD_other _ _ _ _ hng, get_setD_other _ _ _ _ hng]
          exact hsync n hm (List.forall_mem_cons.mpr ⟨fun _ _ _ hf2 => by rw [hf] at hf2; cases hf2; exact Ne.symm hng, hp⟩)

theorem sliceLoop_agree (c₁ c₂ : Child) (path : List String) :
    ∀ (xs : List Val) (ds : List DVal) (z : DVal) (i : Nat) (acc : List DVal) (st : St), xs.length = ds.length →
      (∀ p ∈ xs.zip ds, ∀ pa st, c₁ pa p.1 z st = c₂ pa .nil p.2 st) →
      sliceLoop c₁ path (Engine.zipIdx3 xs (xs.map (fun _ => z)) i) acc st =
      sliceLoop c₂ path (Engine.zipIdx3 (ds.map (fun _ => Val.nil)) ds i) acc st
  | [], [] => fun _ _ _ _ _ _ => by simp [Engine.zipIdx3, sliceLoop]
  | [], _ :: _ => fun _ _ _ _ h _ => by simp at h
  | _ :: _, [] => fun _ _ _ _ h _ => by simp at h
  | x :: xs, d :: ds => fun z i acc st hl hc => by
    simp only [List.map_cons, Engine.zipIdx3, sliceLoop, hc (x, d) List.mem_cons_self]
    exact sliceLoop_agree c₁ c₂ path xs ds z (i + 1) _ _ (Nat.succ.inj hl) (fun p hp => hc p (List.mem_cons_of_mem _ hp))

/-- **Parse / Validate agreement** at every depth -/
theorem agree (env : Env) (s : Schema) : s.WF → ∀ (v v' : Val) (d d0 : DVal) (path : List String) (st : St),
    Pres s v d d0 → proc env .parse s none path v d0 st = proc env .validate s none path v' d st := by
  induction s using Schema.induct with
  | prim p =>
    intro _ v v' d d0 path st ⟨h1, h2, h3⟩
    rw [proc_prim, proc_prim, prim, prim, primBody_agree env p path v v' d d0 st h1 h3 h2]
  | custom c =>
    intro _ v v' d d0 path st h
    simp only [Pres] at h
    simp only [proc_custom, h]
  | pre ps inner _ =>
    intro _ v v' d d0 path st h
    simp only [Pres] at h
  | ptr elem zp nn ih =>
    intro hw v v' d d0 path st h
    simp only [Pres] at h
    obtain ⟨h1, x, rfl, hx⟩ := h
    exact ptr_agree env elem zp nn none path v v' x d0 st h1 (ih hw v v' x _ path st hx)
  | slice elem sm ih =>
    intro hw v v' d d0 path st h
    simp only [Pres] at h
    obtain ⟨h1, xs, ds, hco, rfl, hne, hlen, hall⟩ := h
    have hs₁ : sliceSrc .parse sm v d0 = .items xs (xs.map fun _ => sm.zeroElem) := by
      simp only [sliceSrc, h1, hco, Bool.false_eq_true, ↓reduceIte]
    have hs₂ : sliceSrc .validate sm v' (.slice ds) = .items (ds.map fun _ => Val.nil) ds := by
      cases ds with
      | nil => exact absurd rfl hne
      | cons _ _ => rfl
    have hloop := sliceLoop_agree (proc env .parse elem none) (proc env .validate elem none) path xs ds sm.zeroElem 0 [] st hlen
      (fun p hp pa st' => ih hw p.1 .nil p.2 sm.zeroElem pa st' (hall p hp))
    simp only [proc_slice_eq, sliceBody_eq, hs₁, hs₂, sliceItems, hloop]
  | struct fs tests posts ih =>
    intro ⟨hkeys, hinj, hwf⟩ v v' d d0 path st h
    simp only [Pres] at h
    obtain ⟨kvs, fsd, fs0, rfl, hkv, rfl, rfl, hnames, hnd, hcover, hpf⟩ := h
    have hprov : Engine.provOf (.obj kvs) = some (.map kvs) := by
      cases kvs with
      | nil => exact absurd rfl hkv
      | cons _ _ => rfl
    have hperm := orderOf_perm (env.ω (render path)) fs.keys
    have hloop := fieldLoop_agree env fs hinj .parse .validate none none (.map kvs) .empty path _ fs0 fsd st
      (hperm.nodup_iff.mpr hkeys) hnames hnd
      (fun key _ k fm s hf st' => ih key k fm s hf (Fields.find_wf fs key k fm s hwf hf) _ .nil _ _ _ st'
        (presFields_find kvs _ _ fs key k fm s hpf hf))
      (fun n hm hp => by
        obtain ⟨key, k, fm, s, hk, hf, hg⟩ := fs.goNames_find n hkeys (hcover n hm)
        exact absurd hg (hp key (hperm.mem_iff.mpr hk) k fm s hf))
    simp only [proc_struct_eq, structBody_eq, structProv, hprov, structFields, hloop]

theorem agreeFields (env : Env) : ∀ (fs : Fields), fs.WF → ∀ (key k : String) (fm : FieldMeta) (s : Schema), fs.find key = some (k, fm, s) →
    ∀ (v v' : Val) (d d0 : DVal) (path : List String) (st : St),
    Pres s v d d0 → proc env .parse s none path v d0 st = proc env .validate s none path v' d st :=
  fun fs hw key k fm s hf => agree env s (Fields.find_wf fs key k fm s hw hf)

end Spec
end Zog
