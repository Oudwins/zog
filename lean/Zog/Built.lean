import Zog.Laws

/-!
# What a node does to the execution state

Every node of `Spec.proc` is put together from five things: return a value, file an issue, log a
callback, do one thing after another, and do something only while no issue has been filed (the
PostTransform gate). `Built` is that closure. What the whole-tree theorems need of the traversal's
effect on the state is proved here of the five combinators (`Built.grows`, `Built.locality`); that `proc`
lies in the closure is `proc_built` (Zog/Traversal.lean).
-/

namespace Zog

def St.app (a b : St) : St := ⟨a.sink ++ b.sink, a.log ++ b.log⟩

@[simp] theorem St.app_sink (a b : St) : (a.app b).sink = a.sink ++ b.sink := rfl
@[simp] theorem St.app_log (a b : St) : (a.app b).log = a.log ++ b.log := rfl
theorem St.app_empty (a : St) : a.app {} = a := by simp [St.app]
theorem St.empty_app (a : St) : St.app {} a = a := by simp [St.app]
theorem St.app_assoc (a b c : St) : (a.app b).app c = a.app (b.app c) := by simp [St.app, List.append_assoc]

namespace Spec

-- `Grows` is what `Built.grows` gives; `Extends`, `ExtendsP`, `LogExt` are its three projections, in the
-- form the statements about issues only, or events only, use
def Grows (PI : Issue → Prop) (PE : Event → Prop) (a b : St) : Prop :=
  ∃ δ : St, b = a.app δ ∧ (∀ i ∈ δ.sink, PI i) ∧ ∀ e ∈ δ.log, PE e

theorem Grows.refl {PI : Issue → Prop} {PE : Event → Prop} (a : St) : Grows PI PE a a :=
  ⟨{}, (St.app_empty a).symm, by simp, by simp⟩

theorem Grows.trans {PI : Issue → Prop} {PE : Event → Prop} {a b c : St} (h1 : Grows PI PE a b) (h2 : Grows PI PE b c) :
    Grows PI PE a c := by
  obtain ⟨δ1, rfl, i1, e1⟩ := h1
  obtain ⟨δ2, rfl, i2, e2⟩ := h2
  refine ⟨δ1.app δ2, St.app_assoc _ _ _, ?_, ?_⟩
  · intro i hi
    rcases List.mem_append.mp hi with h | h
    · exact i1 i h
    · exact i2 i h
  · intro e he
    rcases List.mem_append.mp he with h | h
    · exact e1 e h
    · exact e2 e h

theorem Grows.emit {PI : Issue → Prop} {PE : Event → Prop} (a : St) (i : Issue) (h : PI i) : Grows PI PE a (emit a i) :=
  ⟨⟨[i], []⟩, by simp [St.app, Spec.emit], by simpa using h, by simp⟩

theorem Grows.push {PI : Issue → Prop} {PE : Event → Prop} (a : St) (e : Event) (h : PE e) :
    Grows PI PE a { a with log := a.log ++ [e] } :=
  ⟨⟨[], [e]⟩, by simp [St.app], by simp, by simpa using h⟩

def Extends (a b : St) : Prop := ∃ extra, b.sink = a.sink ++ extra

def ExtendsP (P : Issue → Prop) (a b : St) : Prop := ∃ extra, b.sink = a.sink ++ extra ∧ ∀ i ∈ extra, P i

def LogExt (P : Event → Prop) (a b : St) : Prop := ∃ extra, b.log = a.log ++ extra ∧ ∀ e ∈ extra, P e

theorem Grows.extendsP {PI : Issue → Prop} {PE : Event → Prop} {a b : St} (h : Grows PI PE a b) : ExtendsP PI a b := by
  obtain ⟨δ, rfl, hi, _⟩ := h
  exact ⟨δ.sink, rfl, hi⟩

theorem Grows.logExt {PI : Issue → Prop} {PE : Event → Prop} {a b : St} (h : Grows PI PE a b) : LogExt PE a b := by
  obtain ⟨δ, rfl, _, he⟩ := h
  exact ⟨δ.log, rfl, he⟩

theorem Grows.extends {PI : Issue → Prop} {PE : Event → Prop} {a b : St} (h : Grows PI PE a b) : Extends a b := by
  obtain ⟨δ, rfl, _, _⟩ := h
  exact ⟨δ.sink, rfl⟩

theorem ExtendsP.mono {P Q : Issue → Prop} {a b : St} (h : ExtendsP P a b) (hpq : ∀ i, P i → Q i) : ExtendsP Q a b := by
  obtain ⟨extra, e, hall⟩ := h
  exact ⟨extra, e, fun i hi => hpq i (hall i hi)⟩

theorem ExtendsP.all {P : Issue → Prop} {b : St} (h : ExtendsP P {} b) : ∀ i ∈ b.sink, P i := by
  obtain ⟨extra, h1, h2⟩ := h
  exact fun i hi => h2 i (h1 ▸ hi : i ∈ ([] : List Issue) ++ extra)

theorem LogExt.all {P : Event → Prop} {b : St} (h : LogExt P {} b) : ∀ e ∈ b.log, P e := by
  obtain ⟨extra, h1, h2⟩ := h
  exact fun e he => h2 e (h1 ▸ he : e ∈ ([] : List Event) ++ extra)

theorem Extends.refl (a : St) : Extends a a := ⟨[], by simp⟩

theorem Extends.squeeze {a b c : St} (h1 : Extends a b) (h2 : Extends b c) (h : c.sink = a.sink) :
    b.sink = a.sink := by
  obtain ⟨e1, h1⟩ := h1; obtain ⟨e2, h2⟩ := h2
  rw [h2, h1, List.append_assoc] at h
  have : e1 ++ e2 = [] := by simpa using h
  rw [h1, (List.append_eq_nil_iff.mp this).1, List.append_nil]

-- locality as a predicate: `Local` for gate-free runs, `CleanLocal` (what `proc_cleanLocal` states) for clean ones
def Local (f : St → Out) : Prop := ∀ st, f st = ((f {}).1, st.app (f {}).2)

def CleanLocal {α : Type} (f : St → α × St) : Prop :=
  ∀ st, st.sink = [] → ((f st).2.sink = [] ∨ (f {}).2.sink = []) → f st = ((f {}).1, st.app (f {}).2)

theorem local_const (d : DVal) : Local (fun st => (d, st)) := fun st => by simp [St.app]

theorem local_emit (d : DVal) (i : Issue) : Local (fun st => (d, emit st i)) := fun st => by
  simp [St.app, emit]

/-- `PI` / `PE` hold of every issue filed / event logged; without `gated` there is no gate. `bind` has
    the shape `Spec.proc` is written in (`let c := f st; g c.1 c.2`), so goals match it up to β. -/
inductive Built (PI : Issue → Prop) (PE : Event → Prop) (gated : Bool) : {α : Type} → (St → α × St) → Prop
  | ret {α : Type} (a : α) : Built PI PE gated (fun st => (a, st))
  | emit {α : Type} (a : α) (i : Issue) (hi : PI i) : Built PI PE gated (fun st => (a, emit st i))
  | push {α : Type} (a : α) (e : Event) (he : PE e) : Built PI PE gated (fun st => (a, { st with log := st.log ++ [e] }))
  | bind {α β : Type} (f : St → α × St) (g : α → St → β × St) (hf : Built PI PE gated f)
      (hg : ∀ a, Built PI PE gated (g a)) : Built PI PE gated (fun st => g (f st).1 (f st).2)
  | gate {α : Type} (a : α) (f : St → α × St) (hgated : gated = true) (hf : Built PI PE gated f) :
      Built PI PE gated (fun st => if st.sink.isEmpty then f st else (a, st))

/-- built, with nothing said about what is filed or logged -/
abbrev Tame (gated : Bool) {α : Type} (f : St → α × St) : Prop := Built (fun _ => True) (fun _ => True) gated f

/-- `st` holds no issue, asked only where there is a gate to look at it -/
def CleanIf (gated : Bool) (st : St) : Prop := gated = true → st.sink = []

theorem CleanIf.app {gated : Bool} {a b : St} : CleanIf gated (a.app b) ↔ CleanIf gated a ∧ CleanIf gated b := by
  cases gated <;> simp [CleanIf]

theorem CleanIf.of_extends {gated : Bool} {a b : St} (h : Extends a b) (hb : CleanIf gated b) : CleanIf gated a := by
  obtain ⟨e, he⟩ := h
  exact fun hg => (List.append_eq_nil_iff.mp (he ▸ hb hg)).1

namespace Built
variable {PI : Issue → Prop} {PE : Event → Prop} {gated : Bool}

theorem mono {PI' : Issue → Prop} {PE' : Event → Prop} {α : Type} {f : St → α × St} (h : Built PI PE gated f)
    (hi : ∀ i, PI i → PI' i) (he : ∀ e, PE e → PE' e) : Built PI' PE' gated f := by
  induction h with
  | ret a => exact .ret a
  | emit a i h => exact .emit a i (hi i h)
  | push a e h => exact .push a e (he e h)
  | bind f g _ _ ihf ihg => exact .bind f g ihf ihg
  | gate a f hg _ ih => exact .gate a f hg ih

theorem tame {α : Type} {f : St → α × St} (h : Built PI PE gated f) : Tame gated f :=
  h.mono (fun _ _ => trivial) (fun _ _ => trivial)

theorem map {α β : Type} {f : St → α × St} (F : α → β) (h : Built PI PE gated f) :
    Built PI PE gated (fun st => (F (f st).1, (f st).2)) :=
  .bind f (fun a st => (F a, st)) h (fun a => .ret (F a))

theorem afterEmit {α : Type} {f : St → α × St} (i : Issue) (hi : PI i) (h : Built PI PE gated f) :
    Built PI PE gated (fun st => f (Spec.emit st i)) :=
  .bind (fun st => ((), Spec.emit st i)) (fun _ => f) (.emit () i hi) (fun _ => h)

theorem afterLog {α : Type} (e : Event) (f : St → α × St) (he : PE e) (h : Built PI PE gated f) :
    Built PI PE gated (fun st => f { st with log := st.log ++ [e] }) :=
  .bind (fun st => ((), { st with log := st.log ++ [e] })) (fun _ => f) (.push () e he) (fun _ => h)

theorem afterLogIf {α : Type} {f : St → α × St} (c : Bool) (e : Event) (he : PE e) (h : Built PI PE gated f) :
    Built PI PE gated (fun st => f (logIf c st e)) := by
  cases c
  · exact h
  · exact .afterLog e f he h

theorem grows {α : Type} {f : St → α × St} (h : Built PI PE gated f) : ∀ st, Grows PI PE st (f st).2 := by
  induction h with
  | ret a => exact fun st => .refl st
  | emit a i hi => exact fun st => .emit st i hi
  | push a e he => exact fun st => .push st e he
  | bind f g _ _ ihf ihg => exact fun st => (ihf st).trans (ihg _ _)
  | gate a f _ _ ih =>
    intro st
    simp only
    split
    · exact ih st
    · exact .refl st

/-- Locality: a gate-free step does not look at the state it starts from, and a run that stays clean
    never meets a closed gate. One statement for both (`CleanIf`): if the run from `st` ends clean, or
    `st` is clean and the run from the empty state ends clean, then the run from `st` is the run from
    the empty state behind `st`. The conclusion hands back both alternatives of the hypothesis, which
    is what lets the induction, and users, chain steps. -/
theorem locality {α : Type} {f : St → α × St} (hf : Built PI PE gated f) :
    ∀ (st : St), CleanIf gated (f st).2 ∨ (CleanIf gated st ∧ CleanIf gated (f {}).2) →
      f st = ((f {}).1, st.app (f {}).2) ∧ CleanIf gated st ∧ CleanIf gated (f {}).2 := by
  -- once the equation holds, the hypothesis says both parts are clean
  have finish : ∀ {β : Type} (g : St → β × St) {st : St}, Extends st (g st).2 →
      CleanIf gated (g st).2 ∨ (CleanIf gated st ∧ CleanIf gated (g {}).2) → g st = ((g {}).1, st.app (g {}).2) →
      g st = ((g {}).1, st.app (g {}).2) ∧ CleanIf gated st ∧ CleanIf gated (g {}).2 := fun _ _ hx h e =>
    ⟨e, h.elim (CleanIf.of_extends hx) (·.1), h.elim (fun h => (CleanIf.app.mp (e ▸ h)).2) (·.2)⟩
  induction hf with
  | ret a => exact fun st h => finish (fun st => (a, st)) (.refl st) h (by simp [St.app])
  | emit a i _ => exact fun st h => finish (fun st => (a, Spec.emit st i)) ⟨[i], rfl⟩ h (by simp [St.app, Spec.emit])
  | push a e _ =>
    exact fun st h => finish (fun st => (a, { st with log := st.log ++ [e] })) ⟨[], (List.append_nil _).symm⟩ h (by simp [St.app])
  | bind f g hf hg ihf ihg =>
    intro st h
    refine finish (fun st => g (f st).1 (f st).2) ((Built.bind f g hf hg).grows st).extends h ?_
    -- the first step is clean whichever run is, so it is local; after rewriting `f st`, `g` runs once
    -- from `st.app δ` (the run from `st`) and once from `δ` (inside the run from `{}`): `ihg` rebases
    -- both to `{}` and `St.app_assoc` closes
    obtain ⟨e, hs, h0⟩ := ihf st (h.imp (CleanIf.of_extends ((hg _).grows _).extends)
      (fun hc => ⟨hc.1, CleanIf.of_extends ((hg _).grows _).extends hc.2⟩))
    dsimp only at h ⊢
    rw [e] at h ⊢
    have hg0 : CleanIf gated (g (f {}).1 {}).2 := h.elim (fun hc => (ihg _ _ (.inl hc)).2.2) (fun hc => (ihg _ _ (.inl hc.2)).2.2)
    rw [(ihg _ _ (.inr ⟨CleanIf.app.mpr ⟨hs, h0⟩, hg0⟩)).1, (ihg _ _ (.inr ⟨h0, hg0⟩)).1, St.app_assoc]
  | gate a f hgated hf ih =>
    subst hgated
    intro st h
    have hs : st.sink = [] :=
      h.elim (fun hc => CleanIf.of_extends ((Built.gate a f rfl hf).grows st).extends hc rfl) (·.1 rfl)
    simp only [hs, List.isEmpty_nil, ↓reduceIte] at h ⊢
    exact ih st h

theorem cleanLocal {α : Type} {f : St → α × St} (hf : Built PI PE true f) : CleanLocal f :=
  fun st hs hc => (hf.locality st (hc.elim (fun h => .inl fun _ => h) (fun h => .inr ⟨fun _ => hs, fun _ => h⟩))).1

theorem clean_iff {α : Type} {f : St → α × St} (hf : Built PI PE true f) (st : St) :
    (f st).2.sink = [] ↔ st.sink = [] ∧ (f {}).2.sink = [] :=
  ⟨fun h => ⟨(hf.locality st (.inl fun _ => h)).2.1 rfl, (hf.locality st (.inl fun _ => h)).2.2 rfl⟩,
   fun h => by rw [(hf.locality st (.inr ⟨fun _ => h.1, fun _ => h.2⟩)).1, St.app_sink, h.1, h.2, List.append_nil]⟩

end Built

-- (`local` is a keyword: stated outside the namespace)
theorem Built.local {PI : Issue → Prop} {PE : Event → Prop} {α : Type} {f : St → α × St} (hf : Built PI PE false f) (st : St) :
    f st = ((f {}).1, st.app (f {}).2) := (hf.locality st (.inl nofun)).1

end Spec
end Zog
