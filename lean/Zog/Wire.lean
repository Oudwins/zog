import Zog.Sexp
import Zog.Coerce
import Zog.Preds
import Zog.Engine

/-!
# Wire format ⇄ model values (driver side of the line protocol)
Not mentioned by any theorem; trusted as part of the correspondence check.
-/

namespace Zog
namespace Wire
open Sexp

/-! ## literals -/

def fval? : Sexp → Option FVal
  | .atom "nan" => some .nan
  | .atom "+inf" => some (.inf false)
  | .atom "-inf" => some (.inf true)
  | .atom "-0" => some .nzero
  | .list [m, e] => do pure (.fin (← m.int?) (← e.int?))
  | _ => none

def fvalS : FVal → Sexp
  | .nan => .atom "nan"
  | .inf false => .atom "+inf"
  | .inf true => .atom "-inf"
  | .nzero => .atom "-0"
  | .fin m e => .list [mkInt m, mkInt e]

def ikind? : Sexp → Option IKind
  | .atom "int" => some .int
  | .atom "i64" => some .i64
  | .atom "i32" => some .i32
  | .atom _ => some .other
  | _ => none

def nkind? : Sexp → Option NKind
  | .atom "int" => some .int
  | .atom "i32" => some .i32
  | .atom "i64" => some .i64
  | .atom "f32" => some .f32
  | .atom "f64" => some .f64
  | _ => none

def nkindS : NKind → Sexp
  | .int => .atom "int" | .i32 => .atom "i32" | .i64 => .atom "i64" | .f32 => .atom "f32" | .f64 => .atom "f64"

def bool? : Sexp → Option Bool
  | .atom "1" => some true
  | .atom "0" => some false
  | _ => none

partial def val? : Sexp → Option Val
  | .atom "nil" => some .nil
  | .list [.atom "s", h] => do pure (.str (← h.str?))
  | .list [.atom "i", k, n] => do pure (.int (← ikind? k) (← n.int?))
  | .list [.atom "b", b] => do pure (.bool (← bool? b))
  | .list [.atom "f64", f] => do pure (.f64 (← fval? f))
  | .list [.atom "f32", f] => do pure (.f32 (← fval? f))
  | .list [.atom "t", ns, u] => do pure (.time (← ns.int?) (← bool? u))
  | .list (.atom "l" :: xs) => do pure (.list (← xs.mapM val?))
  | .list (.atom "o" :: kvs) => do pure (.obj (← kvs.mapM kv?))
  | .list (.atom "fl" :: kvs) => do pure (.flat (← kvs.mapM kv?))
  | .list [.atom "x", d] => do pure (.other (← d.atom?))
  | _ => none
where
  kv? : Sexp → Option (String × Val)
    | .list [k, v] => do pure (← k.str?, ← val? v)
    | _ => none

partial def valS : Val → Sexp
  | .nil => .atom "nil"
  | .str s => node "s" [mkStr s]
  | .int k n => node "i" [.atom (match k with | .int => "int" | .i64 => "i64" | .i32 => "i32" | .other => "other"), mkInt n]
  | .bool b => node "b" [mkBool b]
  | .f64 f => node "f64" [fvalS f]
  | .f32 f => node "f32" [fvalS f]
  | .time ns u => node "t" [mkInt ns, mkBool u]
  | .list xs => node "l" (xs.map valS)
  | .obj kvs => node "o" (kvs.map fun (k, v) => .list [mkStr k, valS v])
  | .flat kvs => node "fl" (kvs.map fun (k, v) => .list [mkStr k, valS v])
  | .other d => node "x" [.atom d]

partial def dval? : Sexp → Option DVal
  | .list [.atom "s", h] => do pure (.str (← h.str?))
  | .list [.atom "i", k, n] => do pure (.int (← nkind? k) (← n.int?))
  | .list [.atom "f", k, f] => do pure (.flt (← nkind? k) (← fval? f))
  | .list [.atom "b", b] => do pure (.bool (← bool? b))
  | .list [.atom "t", ns, u] => do pure (.time (← ns.int?) (← bool? u))
  | .list (.atom "sl" :: xs) => do pure (.slice (← xs.mapM dval?))
  | .list (.atom "st" :: fs) => do pure (.struct (← fs.mapM fld?))
  | .list [.atom "p"] => some (.ptr none)
  | .list [.atom "p", x] => do pure (.ptr (some (← dval? x)))
  | .list [.atom "cu", v] => do pure (.custom (← val? v))
  | _ => none
where
  fld? : Sexp → Option (String × DVal)
    | .list [.atom k, v] => do pure (k, ← dval? v)
    | _ => none

/-- canonical form of an input value shown in a callback event: object keys sorted (the
    implementation side reads the value back from a Go map, which has no order) -/
partial def canonVal : Val → Val
  | .list xs => .list (xs.map canonVal)
  | .obj kvs =>
    let ins (kv : String × Val) : List (String × Val) → List (String × Val) := fun acc =>
      let rec go : List (String × Val) → List (String × Val)
        | [] => [kv]
        | x :: rest => if kv.1 < x.1 then kv :: x :: rest else x :: go rest
      go acc
    .obj ((kvs.map fun (k, v) => (k, canonVal v)).foldl (fun acc kv => ins kv acc) [])
  | v => v

partial def dvalS : DVal → Sexp
  | .str s => node "s" [mkStr s]
  | .int k n => node "i" [nkindS k, mkInt n]
  | .flt k f => node "f" [nkindS k, fvalS f]
  | .bool b => node "b" [mkBool b]
  | .time ns u => node "t" [mkInt ns, mkBool u]
  | .slice xs => node "sl" (xs.map dvalS)
  | .struct fs => node "st" (fs.map fun (k, v) => .list [.atom k, dvalS v])
  | .ptr none => node "p" []
  | .ptr (some x) => node "p" [dvalS x]
  | .custom v => node "cu" [valS (canonVal v)]

/-! ## external-function oracle supplied with a case -/

structure Oracle where
  pf : List (String × Option FVal) := []
  pt : List (String × String × Option (Int × Bool)) := []
  disp : List (String × String) := []   -- key: wire form of the Val

def Oracle.ext (o : Oracle) : Ext :=
  { parseFloat := fun s => (lookupD o.pf s).getD none,
    parseTime := fun layout s =>
      match o.pt.find? (fun e => e.1 == layout && e.2.1 == s) with
      | some e => e.2.2
      | none => none,
    display := fun v => nativeDisplay o v }
where
  nativeDisplay (o : Oracle) (v : Val) : String :=
    match v with
    | .nil => "<nil>"
    | .str s => s
    | .int _ n => toString n
    | .bool b => if b then "true" else "false"
    | v => (lookupD o.disp (toString (valS v))).getD "?"

def oracle? : Sexp → Option Oracle
  | .list (.atom "ext" :: items) => do
    let mut o : Oracle := {}
    for it in items do
      match it with
      | .list [.atom "pf", s, r] =>
        let s ← s.str?
        o := { o with pf := (s, fval? r) :: o.pf }
      | .list [.atom "pt", l, s, .atom "err"] =>
        o := { o with pt := (← l.str?, ← s.str?, none) :: o.pt }
      | .list [.atom "pt", l, s, ns, u] =>
        o := { o with pt := (← l.str?, ← s.str?, some (← ns.int?, ← bool? u)) :: o.pt }
      | .list [.atom "disp", v, d] =>
        o := { o with disp := (toString v, ← d.str?) :: o.disp }
      | _ => none
    pure o
  | _ => none

/-! ## display of parameters (`%v` of ints, strings, bools and slices of them) -/

partial def dvalDisplay (o : Oracle) : DVal → String
  | .str s => s
  | .int _ n => toString n
  | .bool b => if b then "true" else "false"
  | .slice xs => "[" ++ " ".intercalate (xs.map (dvalDisplay o)) ++ "]"
  | d => (lookupD o.disp (toString (dvalS d))).getD "?"

/-! ## tests -/

/-- measure used by the table-defined callback predicates `fn MOD REM` -/
partial def measure : DVal → Int
  | .str s => goLen s
  | .int _ n => Int.emod n 1009
  | .flt _ f => Int.emod ((f.trunc?).getD 0) 1009
  | .bool b => if b then 1 else 0
  | .time ns _ => ns / 1000000000
  | .slice xs => xs.length
  | .struct fs => fs.foldl (fun acc kv => acc + measure kv.2) 0
  | .ptr none => 0
  | .ptr (some x) => measure x
  | .custom v => match v with
    | .int _ n => Int.emod n 1009
    | .str s => goLen s
    | _ => 0

structure TOpts where
  code : Option String := none
  path : Option String := none
  msg : Option String := none
  params : Option (List (String × String)) := none

def topts? : Sexp → Option TOpts
  | .list (.atom "o" :: items) => do
    let mut t : TOpts := {}
    for it in items do
      match it with
      | .list [.atom "code", s] => t := { t with code := some (← s.str?) }
      | .list [.atom "path", s] => t := { t with path := some (← s.str?) }
      | .list [.atom "msg", s] => t := { t with msg := some (← s.str?) }
      | .list (.atom "params" :: kvs) =>
        let ps ← kvs.mapM fun kv => match kv with
          | .list [k, v] => do pure (← k.str?, ← v.str?)
          | _ => none
        t := { t with params := some ps }
      | _ => none
    pure t
  | _ => none

def applyOpts (t : Test) (o : TOpts) : Test :=
  { t with code := o.code.getD t.code,
           issuePath := match o.path with
             | some p => if p == "" then t.issuePath else some p
             | none => t.issuePath,
           msg := o.msg.getD t.msg,
           params := o.params.getD t.params }

def cmpOp? : String → Option CmpOp
  | "eq" => some .eq | "lt" => some .lt | "lte" => some .lte | "gt" => some .gt | "gte" => some .gte
  | _ => none

def _root_.Zog.CmpOp.toCode : CmpOp → String
  | .eq => "eq" | .lt => "lt" | .lte => "lte" | .gt => "gt" | .gte => "gte"

/-- `(t ID NOT NAME ARGS... OPTS)`: the test as the builder method makes it, and its options -/
def testParts? (o : Oracle) : Sexp → Option (Test × TOpts)
  | .list (.atom "t" :: id :: neg :: .atom name :: rest) => do
    let id ← id.nat?
    let neg ← bool? neg
    let (args, optsS) ← match rest.reverse with
      | last :: revArgs => some (revArgs.reverse, last)
      | [] => none
    let opts ← topts? optsS
    let mk (code : String) (params : List (String × String)) (pred : DVal → Bool) : Test :=
      { id := id, code := if neg then "not_" ++ code else code, params := params,
        pred := if neg then (fun d => !pred d) else pred }
    let base : Test ← match name, args with
      | "min", [n] => do let n ← n.int?; pure (mk "min" [("min", toString n)] (lenMin n))
      | "max", [n] => do let n ← n.int?; pure (mk "max" [("max", toString n)] (lenMax n))
      | "len", [n] => do let n ← n.int?; pure (mk "len" [("len", toString n)] (lenEq n))
      | "prefix", [s] => do let s ← s.str?; pure (mk "prefix" [("prefix", s)] (hasPrefix s))
      | "suffix", [s] => do let s ← s.str?; pure (mk "suffix" [("suffix", s)] (hasSuffix s))
      | "contains", [s] => do let s ← s.str?; pure (mk "contained" [("contained", s)] (containsStr s))
      | "upper", [] => pure (mk "contains_upper" [] (containsInRanges upperRanges))
      | "digit", [] => pure (mk "contains_digit" [] (containsInRanges digitRanges))
      | "special", [] => pure (mk "contains_special" [] (containsInRanges specialRanges))
      | "uuid", [] => pure (mk "uuid" [] (strPred isUUID))
      | "email", [] => pure (mk "email" [] (strPred isEmail))
      | "oneof", xs => do
        let ds ← xs.mapM dval?
        pure (mk "one_of_options" [("one_of_options", dvalDisplay o (.slice ds))] (oneOf ds))
      | "cmp", [.atom op, n] => do
        let op ← cmpOp? op
        let n ← dval? n
        pure (mk op.toCode [(op.toCode, dvalDisplay o n)] (cmpNum op n))
      | "booleq", [b] => do
        let b ← bool? b
        pure (mk "eq" [("eq", if b then "true" else "false")] (boolEq b))
      | "tcmp", [.atom op, ns, disp] => do
        let op ← cmpOp? op
        let code := match op with | .gt => "after" | .lt => "before" | _ => "eq"
        pure (mk code [(code, ← disp.str?)] (timeCmp op (← ns.int?)))
      | "slcontains", [x] => do
        let x ← dval? x
        pure (mk "contained" [("contained", dvalDisplay o x)] (sliceContains x))
      | "fn", [m, r] => do
        let m ← m.int?; let r ← r.int?
        pure { id := id, code := "", cb := true, pred := fun d => decide (Int.emod (measure d) m = r) }
      | _, _ => none
    pure (base, opts)
  | _ => none

def test? (o : Oracle) (s : Sexp) : Option Test := (testParts? o s).map (fun p => applyOpts p.1 p.2)

/-- `strings.TrimSpace` -/
def goTrim (s : String) : String :=
  String.ofList ((s.toList.dropWhile isGoSpace).reverse.dropWhile isGoSpace).reverse

/-- bump a value (the table PostTransform `inc`) -/
def bump : DVal → DVal
  | .str s => .str (s ++ "!")
  | .int k n => .int k (if n < 1000000 then n + 1 else n)
  | .bool b => .bool (!b)
  | .time ns u => .time (ns + 1000000000) u
  | .slice xs => .slice xs.dropLast
  | d => d

/-- modify the first leaf reachable through first elements / pointees (the table PostTransform `incdeep`) -/
def bumpDeep : DVal → DVal
  | .slice (x :: xs) => .slice (bumpDeep x :: xs)
  | .ptr (some x) => .ptr (some (bumpDeep x))
  | .slice [] => .slice []
  | .ptr none => .ptr none
  | .struct fs => .struct fs
  | .custom (.int .int n) => .custom (.int .int (if n < 1000000 then n + 1 else n))
  | .custom (.str s) => .custom (.str (s ++ "!"))
  | d => bump d

/-- `(p ID KIND ARGS...)` -/
def post? : Sexp → Option Post
  | .list [.atom "p", id, .atom "id"] => do pure { id := ← id.nat?, run := fun d => (d, none) }
  | .list [.atom "p", id, .atom "inc"] => do pure { id := ← id.nat?, run := fun d => (bump d, none) }
  | .list [.atom "p", id, .atom "incdeep"] => do pure { id := ← id.nat?, run := fun d => (bumpDeep d, none) }
  | .list [.atom "p", id, .atom "set", x] => do
    let x ← dval? x
    pure { id := ← id.nat?, run := fun _ => (x, none) }
  | .list [.atom "p", id, .atom "fail"] => do pure { id := ← id.nat?, run := fun d => (d, some .plain) }
  -- an ordinary error that WRAPS a ZogIssue is still an ordinary error
  | .list [.atom "p", id, .atom "failwrap"] => do pure { id := ← id.nat?, run := fun d => (d, some .plain) }
  | .list [.atom "p", id, .atom "incfail"] => do pure { id := ← id.nat?, run := fun d => (bump d, some .plain) }
  | .list [.atom "p", id, .atom "failissue", code, path, dtype, msg] => do
    let i : Issue := { code := ← code.str?, path := ← path.str?, dtype := ← dtype.str?, params := [], message := ← msg.str? }
    pure { id := ← id.nat?, run := fun d => (d, some (.issue i)) }
  | _ => none

def optItem (tag : String) (items : List Sexp) : Option (List Sexp) :=
  items.findSome? fun it => match it with
    | .list (.atom t :: rest) => if t == tag then some rest else none
    | _ => none

def pkind? : Sexp → Option PKind
  | .atom "str" => some .str
  | .atom "bool" => some .bool
  | .atom "time" => some .time
  | k => (nkind? k).map PKind.num

def requiredTest (id : Nat) (o : TOpts) : Test :=
  applyOpts { id := id, code := "required", pred := fun _ => true } o

/-- default coercer of a primitive kind (`layout` for time) -/
def defaultCoercer (ext : Ext) (k : PKind) (layout : String) : Val → Option DVal :=
  match k with
  | .str => fun v => some (.str (coerceString ext v))
  | .num nk => coerceNum ext nk
  | .bool => fun v => (coerceBool v).map DVal.bool
  | .time => fun v => (coerceTime ext layout v).map (fun p => DVal.time p.1 p.2)

/-- table of named custom coercers (`WithCoercer`), mirrored by `eng.NamedCoercer` in the harness -/
def namedCoercer : String → Option (Val → Option DVal)
  | "plus100" => some fun v => match v with
    | .int .int n => if -1000000000000 < n ∧ n < 1000000000000 then some (.int .int (n + 100)) else none
    | _ => none
  | "strlen" => some fun v => match v with
    | .str s => some (.int .int s.utf8ByteSize)
    | _ => none
  | "sfx" => some fun v => match v with
    | .str s => some (.str (s ++ "~"))
    | _ => none
  | "yn" => some fun v => match v with
    | .str "y" => some (.bool true)
    | .str "n" => some (.bool false)
    | _ => none
  -- one per remaining constructor (Int64, Int32, Float64 / Float, Float32, Time): a custom coercer REPLACES
  -- the constructor's own (range-checking) adapter and must hand over the destination type itself
  | "len64" => some fun v => match v with
    | .str s => some (.int .i64 s.utf8ByteSize)
    | _ => none
  | "len32" => some fun v => match v with
    | .str s => some (.int .i32 s.utf8ByteSize)
    | _ => none
  | "const25" => some fun v => match v with
    | .str _ => some (.flt .f64 (.fin 5 (-1)))
    | _ => none
  | "const25f" => some fun v => match v with
    | .str _ => some (.flt .f32 (.fin 5 (-1)))
    | _ => none
  | "epoch1" => some fun v => match v with
    | .str _ => some (.time 86400000000000 true)
    | _ => none
  | _ => none

/-- named slice coercers -/
def namedSliceCoercer : String → Option (Val → Option (List Val))
  | "csv" => some fun v => match v with
    | .str s => some ((s.splitOn ",").map Val.str)
    | .list xs => some xs
    | _ => none
  | _ => none

partial def schema? (o : Oracle) : Sexp → Option Schema
  | .list [.atom "prim", k, .list (.atom "mods" :: mods), .list tests, .list posts] => do
    let k ← pkind? k
    let tests ← tests.mapM (test? o)
    let posts ← posts.mapM post?
    let required ← match optItem "req" mods with
      | some [id, os] => do pure (some (requiredTest (← id.nat?) (← topts? os)))
      | some _ => none
      | none => pure none
    let dflt ← match optItem "dflt" mods with
      | some [x] => do pure (some (← dval? x))
      | some _ => none
      | none => pure none
    let ctch ← match optItem "catch" mods with
      | some [x] => do pure (some (← dval? x))
      | some _ => none
      | none => pure none
    let layout ← match optItem "layout" mods with
      | some [l] => l.str?
      | some _ => none
      | none => pure "RFC3339"
    let coerce ← match optItem "coercer" mods with
      | some [.atom name] => namedCoercer name
      | some _ => none
      | none => pure (defaultCoercer o.ext k layout)
    pure (.prim { kind := k, tests, posts, required, dflt, ctch, coerce })
  | .list [.atom "slice", elem, zero, .list (.atom "mods" :: mods), .list tests, .list posts] => do
    let elem ← schema? o elem
    let zero ← dval? zero
    let tests ← tests.mapM (test? o)
    let posts ← posts.mapM post?
    let required ← match optItem "req" mods with
      | some [id, os] => do pure (some (requiredTest (← id.nat?) (← topts? os)))
      | some _ => none
      | none => pure none
    let (dfltIn, dfltD) ← match optItem "dflt" mods with
      | some [vin, vd] => do
        let vin ← val? vin
        let vd ← dval? vd
        match vin, vd with
        | .list xs, .slice ds => pure (some xs, some ds)
        | _, _ => none
      | some _ => none
      | none => pure (none, none)
    let coerce ← match optItem "coercer" mods with
      | some [.atom name] => namedSliceCoercer name
      | some _ => none
      | none => pure coerceSlice
    pure (.slice elem { tests, posts, required, dfltIn, dfltD, coerce, zeroElem := zero })
  | .list [.atom "ptr", elem, zero, nn] => do
    let elem ← schema? o elem
    let zero ← dval? zero
    let notNil ← match nn with
      | .atom "-" => pure none
      | .list [.atom "nn", id, os] => do
        pure (some (applyOpts { id := ← id.nat?, code := "not_nil", pred := fun _ => true } (← topts? os)))
      | _ => none
    pure (.ptr elem zero notNil)
  | .list [.atom "struct", .list fields, .list tests, .list posts] => do
    let tests ← tests.mapM (test? o)
    let posts ← posts.mapM post?
    let fs ← fields.mapM fun f => match f with
      | .list [key, .atom goName, .list tags, s] => do
        let tags ← tags.mapM fun t => match t with
          | .list [.atom n, v] => do pure (n, ← v.str?)
          | _ => none
        pure (← key.str?, ({ goName, tags } : FieldMeta), ← schema? o s)
      | _ => none
    pure (.struct (fs.foldr (fun (k, fm, s) acc => Fields.cons k fm s acc) Fields.nil) tests posts)
  | .list [.atom "pre", id, .list (.atom kind :: args), inner] => do
    let id ← id.nat?
    let inner ← schema? o inner
    let nonNil : Val → Bool := fun v => match v with | .nil => false | _ => true
    let isStr : Val → Bool := fun v => match v with | .str _ => true | _ => false
    let mk (accept : Val → Bool) (run : Val → Val × Option PostErr) (runD : DVal → DVal × Option String) : Schema :=
      .pre { id, accept, run, runD } inner
    match kind, args with
    | "idany", [] => pure (mk nonNil (fun v => (v, none)) (fun d => (d, none)))
    | "fail", [] => pure (mk nonNil (fun v => (v, some .plain)) (fun d => (d, none)))
    | "failwrap", [] => pure (mk nonNil (fun v => (v, some .plain)) (fun d => (d, none)))
    | "failissue", [code, path, dtype, msg] => do
      let i : Issue := { code := ← code.str?, path := ← path.str?, dtype := ← dtype.str?, params := [], message := ← msg.str? }
      pure (mk nonNil (fun v => (v, some (.issue i))) (fun d => (d, none)))
    | "atoi", [] =>
      pure (mk isStr (fun v => match v with
        | .str s => (match atoi s with
          | some n => (.int .int n, none)
          | none => (v, some .plain))
        | _ => (v, some .plain)) (fun d => (d, none)))
    | "trim", [] =>
      pure (mk isStr (fun v => match v with
        | .str s => (.str (goTrim s), none)
        | _ => (v, none)) (fun d => (d, none)))
    | "mismatch", [] => pure (mk (fun _ => false) (fun v => (v, none)) (fun d => (d, none)))
    | "vid", [] => pure (mk (fun _ => false) (fun v => (v, none)) (fun d => (d, none)))
    | "vinc", [] => pure (mk (fun _ => false) (fun v => (v, none)) (fun d => (bump d, none)))
    | "vfail", [msg] => do
      let msg ← msg.str?
      pure (mk (fun _ => false) (fun v => (v, none)) (fun d => (d, some msg)))
    | _, _ => none
  | .list [.atom "custom", .atom ck, t] => do
    let t ← test? o t
    let accept : Val → Option DVal := match ck with
      | "int" => fun v => match v with | .int .int n => some (.custom (.int .int n)) | _ => none
      | "str" => fun v => match v with | .str s => some (.custom (.str s)) | _ => none
      | _ => fun _ => none
    pure (.custom { accept, test := t })
  | _ => none

/-! ## results -/

def issueS (i : Issue) : Sexp :=
  node "I" [mkStr i.code, mkStr i.path, mkStr i.dtype,
    .list ((sortParams i.params).map fun (k, v) => .list [mkStr k, mkStr v]), mkStr i.message]

def insertSorted (k : String) (v : List Issue) : List (String × List Issue) → List (String × List Issue)
  | [] => [(k, v)]
  | (k', v') :: rest => if k < k' then (k, v) :: (k', v') :: rest else (k', v') :: insertSorted k v rest

def issueMapS (m : IssueMap) : Sexp :=
  let sorted := m.foldl (fun acc kv => insertSorted kv.1 kv.2 acc) []
  node "issues" (sorted.map fun (k, is) => .list (mkStr k :: is.map issueS))

def evKindS : EvKind → String
  | .test => "test" | .post => "post" | .custom => "custom" | .pre => "pre"

def eventS (e : Event) : Sexp :=
  node "E" [.atom (evKindS e.kind), mkNat e.id, mkStr e.path, dvalS e.arg]

end Wire
end Zog
