import Zog.Builder

/-!
# Lemmas about the builder model
What a sequence of builder calls leaves: `run` over `[]`, `::` and `++`, `step` on a test, and
`last_touch_decides`, the general statement behind C17's `*_last_wins`.
-/

namespace Zog.Builder

theorem run_nil (s : State) : run [] s = s := rfl

theorem run_cons (c : Call) (cs : List Call) (s : State) : run (c :: cs) s = run cs (step s c) := rfl

theorem run_append (a b : List Call) (s : State) : run (a ++ b) s = run b (run a s) :=
  List.foldl_append ..

/-- `addTest`: a pending `Not()` negates the test and is consumed by it -/
theorem step_test (s : State) (t : Test) (o : Test → Test) :
    step s (.test t o) =
      { s with tests := s.tests ++ [o (if s.isNot then negate t else t)], isNot := false } := by
  cases h : s.isNot <;> simp [step, h]

theorem step_isNot (s : State) {c : Call} (hc : c ≠ .not) (h : s.isNot = false) : (step s c).isNot = false := by
  cases c with
  | not => exact absurd rfl hc
  | test t o => rw [step_test]
  | _ => exact h

theorem run_frame {α} (f : State → α) (touches : Call → Bool)
    (hstep : ∀ s c, touches c = false → f (step s c) = f s) (cs : List Call) (s : State)
    (h : cs.all (fun c => !touches c) = true) : f (run cs s) = f s := by
  induction cs generalizing s with
  | nil => rfl
  | cons c cs ih =>
    rw [List.all_cons, Bool.and_eq_true, Bool.not_eq_true'] at h
    rw [run_cons, ih _ h.2, hstep s c h.1]

/-- the last call that touches a component `f` of the state decides it -/
theorem last_touch_decides {α} (f : State → α) (touches : Call → Bool)
    (hstep : ∀ s c, touches c = false → f (step s c) = f s) (pre post : List Call) (c : Call) (s : State)
    (h : post.all (fun c => !touches c) = true) :
    f (run (pre ++ [c] ++ post) s) = f (step (run pre s) c) := by
  rw [run_append, run_append, run_frame f touches hstep post _ h]; rfl

end Zog.Builder
