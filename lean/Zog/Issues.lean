import Zog.Traversal

/-!
# Where issues are addressed, and what all of them satisfy   — C10, C11
Two readings of `IssueFrom` (through `proc_grows`): a node run at path `p` only files issues addressed
at `p` extended by keys / slice positions, or at an `IssuePath` declared on one of the schema's tests,
provided its callbacks return ordinary errors (`proc_at`); and whatever holds of all that the four
issue constructors build holds of every issue (`proc_inv`).
-/

namespace Zog
namespace Spec
open Engine (Prov)

/-- the issue is addressed to a node at or below `root`, or to a declared `IssuePath` -/
def AtOrBelow (root : List String) (ov : List String) (i : Issue) : Prop :=
  (∃ suffix : List String, i.path = render (root ++ suffix)) ∨ i.path ∈ ov

def testOv (t : Test) : List String := t.issuePath.toList

mutual
/-- every `IssuePath` declared anywhere in the schema -/
def overrides : Schema → List String
  | .prim p => (p.required.toList ++ p.tests).flatMap testOv
  | .slice elem sm => (sm.required.toList ++ sm.tests).flatMap testOv ++ overrides elem
  | .ptr elem _ nn => nn.toList.flatMap testOv ++ overrides elem
  | .struct fs tests _ => tests.flatMap testOv ++ overridesF fs
  | .custom c => testOv c.test
  | .pre _ inner => overrides inner
def overridesF : Fields → List String
  | .nil => []
  | .cons _ _ s rest => overrides s ++ overridesF rest
end

/-- the PostTransforms return ordinary errors (not a ZogIssue of their own, whose path is theirs) -/
def postsPlain (posts : List Post) : Prop := ∀ p ∈ posts, ∀ x i, (p.run x).2 ≠ some (.issue i)

mutual
def PlainCallbacks : Schema → Prop
  | .prim p => postsPlain p.posts
  | .slice elem sm => postsPlain sm.posts ∧ PlainCallbacks elem
  | .ptr elem _ _ => PlainCallbacks elem
  | .struct fs _ posts => postsPlain posts ∧ PlainCallbacksF fs
  | .custom _ => True
  | .pre ps inner => (∀ v i, (ps.run v).2 ≠ some (.issue i)) ∧ PlainCallbacks inner
def PlainCallbacksF : Fields → Prop
  | .nil => True
  | .cons _ _ s rest => PlainCallbacks s ∧ PlainCallbacksF rest
end

mutual
theorem overrides_of_hasTest : ∀ (s : Schema) (t : Test), s.HasTest t → ∀ q ∈ testOv t, q ∈ overrides s
  | .prim p => fun t h q hq => List.mem_flatMap.mpr ⟨t, h, hq⟩
  | .slice elem sm => fun t h q hq =>
    List.mem_append.mpr (h.imp (fun h => List.mem_flatMap.mpr ⟨t, h, hq⟩) (fun h => overrides_of_hasTest elem t h q hq))
  | .ptr elem _ nn => fun t h q hq =>
    List.mem_append.mpr (h.imp (fun h => List.mem_flatMap.mpr ⟨t, h, hq⟩) (fun h => overrides_of_hasTest elem t h q hq))
  | .struct fs tests _ => fun t h q hq =>
    List.mem_append.mpr (h.imp (fun h => List.mem_flatMap.mpr ⟨t, h, hq⟩) (fun h => overridesF_of_hasTest fs t h q hq))
  | .custom c => fun t h q hq => by cases h; exact hq
  | .pre _ inner => fun t h q hq => overrides_of_hasTest inner t h q hq
theorem overridesF_of_hasTest : ∀ (fs : Fields) (t : Test), fs.HasTest t → ∀ q ∈ testOv t, q ∈ overridesF fs
  | .nil => fun _ h _ _ => h.elim
  | .cons _ _ s rest => fun t h q hq =>
    List.mem_append.mpr (h.imp (fun h => overrides_of_hasTest s t h q hq) (fun h => overridesF_of_hasTest rest t h q hq))
end

theorem postsPlain_returns {posts : List Post} (hp : postsPlain posts) {e : PostErr} (h : postsReturn posts e) : e = .plain := by
  obtain ⟨p, hm, x, hx⟩ := h
  cases e with
  | plain => rfl
  | issue i => exact absurd hx (hp p hm x i)

mutual
theorem plain_of_returns : ∀ (s : Schema), PlainCallbacks s → ∀ e, s.Returns e → e = .plain
  | .prim _ => fun hp _ h => postsPlain_returns hp h
  | .slice elem _ => fun hp e h => h.elim (postsPlain_returns hp.1) (plain_of_returns elem hp.2 e)
  | .ptr elem _ _ => fun hp e h => plain_of_returns elem hp e h
  | .struct fs _ _ => fun hp e h => h.elim (postsPlain_returns hp.1) (plainF_of_returns fs hp.2 e)
  | .custom _ => fun _ _ h => h.elim
  | .pre ps inner => fun hp e h => by
    rcases h with ⟨v, hv⟩ | h
    · cases e with
      | plain => rfl
      | issue i => exact absurd hv (hp.1 v i)
    · exact plain_of_returns inner hp.2 e h
theorem plainF_of_returns : ∀ (fs : Fields), PlainCallbacksF fs → ∀ e, fs.Returns e → e = .plain
  | .nil => fun _ _ h => h.elim
  | .cons _ _ s rest => fun hp e h => h.elim (plain_of_returns s hp.1 e) (plainF_of_returns rest hp.2 e)
end

theorem IssueFrom.atOrBelow {env : Env} {s : Schema} {path : List String} {i : Issue} (hpl : PlainCallbacks s)
    (h : IssueFrom env s path i) : AtOrBelow path (overrides s) i := by
  cases h with
  | @test p hp dt t h =>
    obtain ⟨sfx, rfl⟩ := hp
    cases hq : t.issuePath with
    | none => exact .inl ⟨sfx, by simp [issueOfTest, hq]⟩
    | some q => exact .inr (by simpa [issueOfTest, hq] using overrides_of_hasTest s t h q (by simp [testOv, hq]))
  | coerce hp dt => obtain ⟨sfx, rfl⟩ := hp; exact .inl ⟨sfx, rfl⟩
  | postErr hp dt h => obtain ⟨sfx, rfl⟩ := hp; cases plain_of_returns s hpl _ h; exact .inl ⟨sfx, rfl⟩
  | preErr hp dt msg => obtain ⟨sfx, rfl⟩ := hp; exact .inl ⟨sfx, rfl⟩

/-- every issue a node files is addressed at or below the node, or to a declared IssuePath -/
theorem proc_at (env : Env) (m : Mode) (ov : List String) (s : Schema) (hpl : PlainCallbacks s) (hov : ∀ q ∈ overrides s, q ∈ ov)
    (tag : Option String) (path : List String) (v : Val) (d : DVal) (st : St) :
    ExtendsP (AtOrBelow path ov) st (proc env m s tag path v d st).2 :=
  (proc_grows env m s tag path v d st).extendsP.mono fun _ h => (h.atOrBelow hpl).imp_right (hov _)

theorem procKey_at (env : Env) (m : Mode) (ov : List String) :
    ∀ (fs : Fields), PlainCallbacksF fs → (∀ q ∈ overridesF fs, q ∈ ov) →
      ∀ (key : String) (tag : Option String) (prov : Prov) (path : List String) (d : DVal) (st : St),
        ExtendsP (AtOrBelow path ov) st (procKey env m fs key tag prov path d st).2 :=
  fun fs hpl hov key tag prov path d st =>
    (procKey_grows env m fs key tag prov path d st).extendsP.mono fun _ h =>
      (h.atOrBelow (s := .struct fs [] []) ⟨by simp [postsPlain], hpl⟩).imp_right (fun hq => hov _ (by simpa [overrides] using hq))

/-- `proc_at` from the root. Every string `p` is `render [p]`, so the first disjunct alone excludes
    nothing here; what locates an issue is `proc_at` at a non-empty path. -/
theorem run_issue_paths (env : Env) (m : Mode) (s : Schema) (hpl : PlainCallbacks s) (tag : Option String) (v : Val) (d : DVal) :
    ∀ i ∈ (run env m s tag v d).2.sink, (∃ chain : List String, i.path = render chain) ∨ i.path ∈ overrides s :=
  (proc_at env m (overrides s) s hpl (fun _ h => h) tag [] v d {}).all

/-- `P` holds of everything the four issue constructors can build under `env`: `issueOfTest` (a failing
    test, Required, NotNil), `coerceIssue`, `issueOfPostErr` (an error returned by a PostTransform or
    a Preprocess function), `preErrIssue` -/
structure CtorInv (env : Env) (P : Issue → Prop) : Prop where
  test : ∀ (path dt : String) (t : Test), P (issueOfTest env path dt t)
  coerce : ∀ (path dt : String), P (coerceIssue env path dt)
  postErr : ∀ (path dt : String) (e : PostErr), P (issueOfPostErr env path dt e)
  preErr : ∀ (path dt msg : String), P (preErrIssue env path dt msg)

theorem IssueFrom.inv {env : Env} {P : Issue → Prop} (h : CtorInv env P) {s : Schema} {path : List String} {i : Issue}
    (hi : IssueFrom env s path i) : P i := by
  cases hi with
  | test _ dt _ => exact h.test _ dt _
  | coerce _ dt => exact h.coerce _ dt
  | postErr _ dt _ => exact h.postErr _ dt _
  | preErr _ dt msg => exact h.preErr _ dt msg

theorem proc_inv (env : Env) (m : Mode) (P : Issue → Prop) (h : CtorInv env P) (s : Schema) (tag : Option String)
    (path : List String) (v : Val) (d : DVal) (st : St) : ExtendsP P st (proc env m s tag path v d st).2 :=
  (proc_grows env m s tag path v d st).extendsP.mono fun _ hi => hi.inv h

theorem procKey_inv (env : Env) (m : Mode) (P : Issue → Prop) (h : CtorInv env P) :
    ∀ (fs : Fields) (key : String) (tag : Option String) (prov : Prov) (path : List String) (d : DVal) (st : St),
      ExtendsP P st (procKey env m fs key tag prov path d st).2 :=
  fun fs key tag prov path d st =>
    (procKey_grows env m fs key tag prov path d st).extendsP.mono fun _ hi => hi.inv h

theorem run_inv (env : Env) (m : Mode) (P : Issue → Prop) (h : CtorInv env P) (s : Schema) (tag : Option String) (v : Val) (d : DVal) :
    ∀ i ∈ (run env m s tag v d).2.sink, P i :=
  (proc_inv env m P h s tag [] v d {}).all

def FmtTotal (env : Env) : Prop := ∀ code dt params, env.fmt code dt params ≠ ""

/-- with a total formatter every constructor yields a non-empty message (its own if it has one,
    else the formatter's) -/
theorem message_ctorInv (env : Env) (hf : FmtTotal env) : CtorInv env (fun i => i.message ≠ "") where
  test := fun path dt t => by
    simp only [issueOfTest]
    by_cases h : t.msg = ""
    · simp only [h, bne_self_eq_false, Bool.false_eq_true, ↓reduceIte]; exact hf _ _ _
    · simp [h]
  coerce := fun path dt => by simp only [coerceIssue]; exact hf _ _ _
  postErr := fun path dt e => by
    cases e with
    | plain => simp only [issueOfPostErr]; exact hf _ _ _
    | issue i =>
      simp only [issueOfPostErr]
      by_cases h : i.message = ""
      · simp only [h, bne_self_eq_false, Bool.false_eq_true, ↓reduceIte]; exact hf _ _ _
      · simp [h]
  preErr := fun path dt msg => by
    simp only [preErrIssue]
    by_cases h : msg = ""
    · simp only [h, bne_self_eq_false, Bool.false_eq_true, ↓reduceIte]; exact hf _ _ _
    · simp [h]

end Spec
end Zog
