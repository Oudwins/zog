import Zog.Props.FactsOK
import Zog.Views
import Zog.Props.C15

/-!
# C14 — all input front ends are equivalent views of the same record   (partial: D17)
The front ends differ in (a) which struct tag names a key, (b) how a missing key reads (nil for
maps and JSON, "" for form / query / env), (c) string-typed leaves. The node lemmas show that a node cannot
see these differences; `whole_record_flat_vs_map` lifts them to a record at depth 1. Below that the real code
re-derives the provider from the raw sub-value (finding D17), which the model mirrors.
-/

namespace Zog.Props.C14
open Zog Spec

/-- (b) a primitive node cannot tell how a value is absent: nil (map / JSON) and "" or blanks
    (form / query / env) behave identically -/
theorem absent_inputs_equivalent_prim (env : Env) (p : Prim) (path : List String) (v₁ v₂ : Val) (d : DVal) (st : St)
    (h1 : isParseZero v₁ = true) (h2 : isParseZero v₂ = true) :
    prim env .parse p path v₁ d st = prim env .parse p path v₂ d st :=
  prim_congr p (h1.trans h2.symm) (fun h => Bool.noConfusion (h1.symm.trans h)) env path d st

theorem absent_inputs_equivalent_slice (env : Env) (elem : Schema) (sm : SliceMods) (path : List String)
    (v₁ v₂ : Val) (d : DVal) (st : St) (h1 : isParseZero v₁ = true) (h2 : isParseZero v₂ = true) :
    proc env .parse (.slice elem sm) none path v₁ d st = proc env .parse (.slice elem sm) none path v₂ d st :=
  viewEq_absent (.slice elem sm) rfl v₁ v₂ h1 h2 env path d st

theorem absent_inputs_equivalent_ptr (env : Env) (elem : Schema) (zp : DVal) (nn : Option Test) (tag : Option String)
    (path : List String) (v₁ v₂ : Val) (d : DVal) (st : St) (h1 : isParseZero v₁ = true) (h2 : isParseZero v₂ = true) :
    proc env .parse (.ptr elem zp nn) tag path v₁ d st = proc env .parse (.ptr elem zp nn) tag path v₂ d st :=
  ptr_congr elem zp nn tag (h1.trans h2.symm) (fun h => Bool.noConfusion (h1.symm.trans h)) env path d st

/-- a flat and a map source over the same list read a key it has alike; a key it lacks reads "" (nil for a
    list key `k[]`) from the one, nil from the other: both absent -/
theorem flat_vs_map_lookup (kvs : List (String × Val)) (k : String) :
    (∀ v, lookupD kvs k = some v → (Engine.Prov.flat kvs).get k = (Engine.Prov.map kvs).get k) ∧
    (lookupD kvs k = none → isParseZero ((Engine.Prov.flat kvs).get k) = true ∧ isParseZero ((Engine.Prov.map kvs).get k) = true) := by
  constructor
  · intro v h
    simp only [Engine.Prov.get, h, Option.getD]
  · intro h
    simp only [Engine.Prov.get, h, Option.getD]
    exact ⟨by split <;> rfl, rfl⟩

/-- (a) each source names a field by its own tag (up to the first comma), else the `zog` tag, else the schema
    key -/
theorem key_per_source (src : String) (fm : FieldMeta) (key : String) :
    Engine.keyFor (some src) fm key =
      match lookupD fm.tags src with
      | some k => if Engine.tagName k != "" then Engine.tagName k else (lookupD fm.tags "zog").getD key
      | none => (lookupD fm.tags "zog").getD key := by
  unfold Engine.keyFor
  cases h : lookupD fm.tags src <;> simp [h]

/-- (c) string-typed leaves: the default bool coercer reads a bool's rendering as the bool -/
theorem bool_rendering (b : Bool) : coerceBool (.str (if b then "true" else "false")) = coerceBool (.bool b) :=
  default_bool_reads_rendering b

/-- the default string coercer returns a string input as it is -/
theorem string_rendering (ext : Ext) (s : String) : coerceString ext (.str s) = s := rfl

/-- **decimal renderings parse back**: `strconv.Atoi (strconv.Itoa n) = n` for every 64-bit integer -/
theorem atoi_inverts_itoa (n : Int) (hlo : minInt64 ≤ n) (hhi : n ≤ maxInt64) : atoi (toString n) = some n :=
  atoi_toString n hlo hhi

/-- hence the default coercer of the three integer schema kinds reads a number's rendering as the number -/
theorem int_schemas_read_renderings (ext : Ext) (k : NKind) (hk : k = .int ∨ k = .i64 ∨ k = .i32) (n : Int)
    (hlo : minInt64 ≤ n) (hhi : n ≤ maxInt64) :
    coerceNum ext k (.str (toString n)) = coerceNum ext k (.int .int n) :=
  default_int_reads_rendering ext k hk n hlo hhi

/-- **The whole record, at depth 1.** One logical record `r` read from a flat source (`flatView`: form, query
    string, environment — string leaves, `""` for a missing key) under the source tag `tag`, and from a plain map
    (`mapView`: native leaves, nil for a missing key) under no source tag: for every struct schema whose fields
    meet `FieldOK`, the two executions return the same destination, issues and callback log. `FieldOK`: `tag`
    gives the field the key it has without a source tag, not ending in `[]`; its node is a primitive, slice or
    pointer if the record lacks the key (`absentBlind`), else reads the leaf alike from both sources (`LeafOK`). -/
theorem whole_record_flat_vs_map (env : Env) (r : Record) (hr : r ≠ []) (tag : Option String)
    (fs : Fields) (tests : List Test) (posts : List Post)
    (hfs : ∀ k fm s, (k, fm, s) ∈ fs.toList → FieldOK r tag k fm s) (d : DVal) :
    Spec.run env .parse (.struct fs tests posts) tag (.flat (flatView r)) d =
    Spec.run env .parse (.struct fs tests posts) none (.obj (mapView r)) d :=
  flat_and_map_views_agree env r tag fs tests posts hfs [] d {}

/-- the same for the mechanism model under the regenerated code facts -/
theorem whole_record_flat_vs_map_engine (env : Env) (r : Record) (hr : r ≠ []) (tag : Option String)
    (fs : Fields) (tests : List Test) (posts : List Post)
    (hfs : ∀ k fm s, (k, fm, s) ∈ fs.toList → FieldOK r tag k fm s) (d : DVal) :
    Engine.run env Gen.facts .parse (.struct fs tests posts) tag (.flat (flatView r)) d =
    Engine.run env Gen.facts .parse (.struct fs tests posts) none (.obj (mapView r)) d := by
  rw [engine_is_spec, engine_is_spec]
  exact whole_record_flat_vs_map env r hr tag fs tests posts hfs d

/-- witness of `hfs`: a string, an int (no `form` tag, so both sources name it by its zog tag `years`) and an
    optional pointer, with a record lacking the third field -/
example (ext : Ext) :
    let age : Prim := { kind := .num .int, coerce := coerceNum ext .int }
    let name : Prim := { kind := .str, coerce := fun v => some (.str (coerceString ext v)) }
    let fs := Fields.cons "name" { goName := "Name" } (.prim name)
              (Fields.cons "age" { goName := "Age", tags := [("zog", "years")] } (.prim age)
              (Fields.cons "nick" { goName := "Nick" } (.ptr (.prim name) (.str "") none) Fields.nil))
    let r : Record := [("name", .str "Ann"), ("years", .int 41)]
    ∀ k fm s, (k, fm, s) ∈ fs.toList → FieldOK r (some "form") k fm s := by
  intro age name fs r k fm s hm
  have hlo : minInt64 ≤ 41 := by decide
  have hhi : 41 ≤ maxInt64 := by decide
  simp only [fs, Fields.toList, List.mem_cons, Prod.mk.injEq, List.not_mem_nil, or_false] at hm
  rcases hm with ⟨rfl, rfl, rfl⟩ | ⟨rfl, rfl, rfl⟩ | ⟨rfl, rfl, rfl⟩
  · exact ⟨rfl, by decide +kernel, trivial⟩
  · exact ⟨rfl, by decide +kernel, hlo, hhi, default_int_reads_rendering ext .int (.inl rfl) 41 hlo hhi⟩
  · exact ⟨rfl, by decide +kernel, rfl⟩

/-- decimal renderings parse back: instances, the two 64-bit bounds among them -/
theorem int_rendering_examples :
    atoi "0" = some 0 ∧ atoi "42" = some 42 ∧ atoi "-7" = some (-7) ∧
    atoi "9223372036854775807" = some 9223372036854775807 ∧ atoi "-9223372036854775808" = some (-9223372036854775808) := by
  iterate 5 rw [atoi_ofList]
  decide +kernel

/-- Finding D17 in one lookup: a key the (here empty) flat source lacks reads `""`, of which no provider can be
    made. That is what the node of a nested struct field is handed by a flat source (the statement involves no
    schema); the model mirrors the code, which is why the theorems above stop at depth 1. -/
theorem nested_flat_source_fails : Engine.provOf ((Engine.Prov.flat []).get "db") = none := by
  decide +kernel

/-- `engine_is_spec` at Parse -/
theorem engine_mirrors (env : Env) (s : Schema) (tag : Option String) (v : Val) (d : DVal) :
    Engine.run env Gen.facts .parse s tag v d = Spec.run env .parse s tag v d := engine_is_spec env .parse s tag v d

/-- which source a request is read from, and therefore which struct tag (`query`, `json`, `form`) names its
    keys, is as documented (regenerated dispatch tables of `zhttp.Request`) -/
theorem request_source_as_documented :
    Gen.httpMethods = [("GET".toList, .query), ("HEAD".toList, .query)] ∧
    Gen.httpTypes = [("application/json".toList, .json), ("application/x-www-form-urlencoded".toList, .form)] ∧
    Gen.httpDefault = .query ∧ Gen.httpCutSep = [';'] ∧ Gen.httpUniform = true := C15.tables_as_documented

end Zog.Props.C14
