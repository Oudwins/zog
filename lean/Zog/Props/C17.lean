import Zog.Builder
import Zog.BuilderLaws
import Zog.Gen.Catalogue
import Zog.Gen.Facts

/-!
# C17 — builder methods act locally and mean what they say
A fluent chain is a list of `Builder.Call`s folded by `run` into a `State`. "Locally": a `Not()` reaches the one
test that follows it, and each component of the state is decided by the last call that touches it.
-/

namespace Zog.Props.C17
open Zog Builder

/-- **Not() negates exactly the next string test and nothing after it**: the test following `Not()` is added
    negated and `post` builds on as it would have without the `Not()`. -/
theorem not_is_local (pre post : List Call) (t : Test) (o : Test → Test) (s0 : State) (h : (run pre s0).isNot = false) :
    run (pre ++ [.not, .test t o] ++ post) s0 =
      run post { run pre s0 with tests := (run pre s0).tests ++ [o (negate t)] } := by
  rw [run_append, run_append]
  congr 1
  simp [run_nil, run_cons, step, h]

/-- the negated test fails exactly when the plain one passes and carries the flipped code; params, id and
    message are kept -/
theorem negated_test_semantics (t : Test) (d : DVal) :
    (negate t).pred d = !t.pred d ∧ (negate t).code = notCode t.code ∧
    (negate t).params = t.params ∧ (negate t).id = t.id ∧ (negate t).msg = t.msg := by
  unfold negate
  exact ⟨rfl, rfl, rfl, rfl, rfl⟩

theorem plain_test_unchanged (s : State) (t : Test) (o : Test → Test) (h : s.isNot = false) :
    step s (.test t o) = { s with tests := s.tests ++ [o t] } := by
  simp [step_test, h]

/-- every `Not()` is immediately followed by a negatable test (all the `NotStringSchema` return type allows) -/
def WellFormed : List Call → Bool
  | [] => true
  | [.not] => false
  | .not :: .test _ _ :: rest => WellFormed rest
  | .not :: _ => false
  | _ :: rest => WellFormed rest

/-- a negation never leaks past a well-formed chain -/
theorem wellformed_isNot_clear : ∀ (calls : List Call) (s : State), s.isNot = false → WellFormed calls = true →
    (run calls s).isNot = false := by
  intro calls
  fun_induction WellFormed calls with
  | case1 => exact fun _ h _ => h
  | case2 | case4 => exact fun _ _ hw => nomatch hw
  | case3 t o rest ih => exact fun s _ hw => ih _ (by rw [step_test]) hw
  | case5 c rest _ _ hc ih => exact fun s h hw => ih _ (step_isNot s hc h) hw

def isReqCall : Call → Bool
  | .required _ => true
  | .optional => true
  | _ => false

theorem step_required (s : State) (c : Call) (h : isReqCall c = false) : (step s c).required = s.required := by
  cases c with
  | test t o => rw [step_test]
  | required | optional => cases h
  | _ => rfl

/-- Required/Optional: the last such call decides -/
theorem required_last_wins (pre post : List Call) (r : Test) (s : State)
    (h : post.all (fun c => !isReqCall c) = true) :
    (run (pre ++ [.required r] ++ post) s).required = some r :=
  last_touch_decides (·.required) isReqCall step_required pre post _ s h

theorem optional_last_wins (pre post : List Call) (s : State)
    (h : post.all (fun c => !isReqCall c) = true) :
    (run (pre ++ [.optional] ++ post) s).required = none :=
  last_touch_decides (·.required) isReqCall step_required pre post _ s h

def isDefaultCall : Call → Bool
  | .default _ => true
  | _ => false

def isCatchCall : Call → Bool
  | .catch_ _ => true
  | _ => false

theorem step_dflt (s : State) (c : Call) (h : isDefaultCall c = false) : (step s c).dflt = s.dflt := by
  cases c with
  | test t o => rw [step_test]
  | default => cases h
  | _ => rfl

theorem step_ctch (s : State) (c : Call) (h : isCatchCall c = false) : (step s c).ctch = s.ctch := by
  cases c with
  | test t o => rw [step_test]
  | catch_ => cases h
  | _ => rfl

theorem default_last_wins (pre post : List Call) (d : DVal) (s : State)
    (h : post.all (fun c => !isDefaultCall c) = true) :
    (run (pre ++ [.default d] ++ post) s).dflt = some d :=
  last_touch_decides (·.dflt) isDefaultCall step_dflt pre post _ s h

theorem catch_last_wins (pre post : List Call) (d : DVal) (s : State)
    (h : post.all (fun c => !isCatchCall c) = true) :
    (run (pre ++ [.catch_ d] ++ post) s).ctch = some d :=
  last_touch_decides (·.ctch) isCatchCall step_ctch pre post _ s h

/-- no call changes the tests already present: test options reach only the test they were passed with -/
theorem tests_only_appended (s : State) (c : Call) : ∃ extra, (step s c).tests = s.tests ++ extra := by
  cases c with
  | test t o => exact ⟨_, congrArg State.tests (step_test s t o)⟩
  | testFunc t => exact ⟨[t], rfl⟩
  | _ => exact ⟨[], (List.append_nil _).symm⟩

/-- Required, Optional, Default and Catch leave the tests as they are -/
theorem modifier_leaves_tests (s : State) (r : Test) (d : DVal) :
    (step s (.required r)).tests = s.tests ∧ (step s .optional).tests = s.tests ∧
    (step s (.default d)).tests = s.tests ∧ (step s (.catch_ d)).tests = s.tests := ⟨rfl, rfl, rfl, rfl⟩

/-- `WithCoercer`: the node built carries the coercer given (a projection of `Builder.toPrim`) -/
theorem coercer_is_the_given_one (k : PKind) (c : Val → Option DVal) (s : State) : (toPrim k c s).coerce = c := rfl

/-- every negatable built-in string test reports the `not_`-prefixed code of its plain form: `Gen.notPairs` holds
    the codes of `String.<method>` and `String.Not().<method>` dumped from the compiled library
    (`Builder.notCode` is not involved) -/
theorem not_codes_flip :
    Gen.notPairs.all (fun p => p.2 == ['n', 'o', 't', '_'] ++ p.1 && !p.1.isEmpty) = true ∧ Gen.notPairs.length = 12 := by
  decide +kernel

/-- go/ast fact: no write rooted at a schema receiver or a package variable in process / validate / Parse /
    Validate and the schema-file functions reachable from them (what sharing one schema object rests on) -/
theorem shared_schema_is_read_only : Gen.schemaWrites = [] := by decide

/-- behavioural fact: `SliceSchema.validate` hands the validated value a deep copy of a nested Default (probe:
    validate twice on empty values, writing in place through the result; the Default stays as the caller wrote
    it) -/
theorem shared_default_is_copied : Gen.sliceDefaultDeep = true := by decide

end Zog.Props.C17
