import Zog.Refine
import Zog.Props.C07

/-!
# The regenerated code-shape facts satisfy `FactsOK`
A proof obligation of every property whose theorems go through `engine_is_spec`.
`Zog.Gen.facts` is rewritten by `extract` from /repo's working tree on every run; if a child loop
stops resetting `CanCatch`/`Exit`, the `decide` of `facts_ok` fails.
-/

namespace Zog.Props

theorem facts_ok : FactsOK Gen.facts := by decide

/-- under the regenerated facts the mechanism model is the reference semantics -/
theorem engine_is_spec (env : Env) (m : Mode) (s : Schema) (tag : Option String) (v : Val) (d : DVal) :
    Engine.run env Gen.facts m s tag v d = Spec.run env m s tag v d :=
  Engine.run_refines env Gen.facts facts_ok m s tag v d

/-- `C07.constructors_complete` restated: each pooled constructor named assigns every live field of
    its type — catch flags, context values, messages, params and paths among them -/
theorem recycled_objects_start_clean :
    C07.coversAll "NewExecCtx" "ExecCtx" = true ∧
    C07.coversAll "NewZogIssue" "ZogIssue" = true ∧ C07.coversAll "IssueFromTest" "ZogIssue" = true ∧
    C07.coversAll "IssueFromCoerce" "ZogIssue" = true ∧
    C07.coversAll "NewErrsList" "ErrsList" = true ∧ C07.coversAll "NewErrsMap" "ErrsMap" = true ∧
    C07.coversAll "NewSchemaCtx" "SchemaCtx" = true ∧ C07.coversAll "NewValidateSchemaCtx" "SchemaCtx" = true ∧
    (C07.assignedBy "NewPathBuilder").contains "reslice[:1]" = true := C07.constructors_complete

/-- regenerated go/ast fact: outside the two constructors no field of SchemaCtx is assigned but
    Data, ValPtr, DType, Exit, CanCatch (re-initialised per child: `Gen.facts`), Test (set per test)
    and the Path stack — so the context the children of a struct / slice node share reaches a later
    sibling through no other field -/
theorem ctx_carries_only_managed_state : Gen.ctxStrayWrites = [] := by decide

/-- executions write no schema object and no package-level variable (assignments, inc/dec, in-place
    mutator calls in process / validate / Parse / Validate and what they reach in the schema files) -/
theorem executions_write_no_schema : Gen.schemaWrites = [] := C07.schemas_carry_nothing_over.1

/-- the closures a schema is made of keep no state between calls -/
theorem closures_are_stateless : Gen.closureWrites = [] := C07.schemas_carry_nothing_over.2

end Zog.Props
