import Zog.Props.FactsOK
import Zog.Alias

/-!
# C19 — executions never modify the schema or the input
In the value model schema and input are arguments, not part of the result: "never modified" holds there by
construction. The content is (a) the tie to the code (go/ast fact `Gen.schemaWrites = []`; correspondence streams
that snapshot schema and input around real runs) and (b) the aliasing model `Zog/Alias.lean`: the deep copy
`SliceSchema.validate` makes of its Default (`Gen.sliceDefaultDeep`) is out of reach of writes through the destination.
-/

namespace Zog.Props.C19
open Zog Spec

/-- go/ast fact: no write (assignment, inc/dec, in-place mutator call) rooted at a schema receiver or a package
    variable inside `process`, `validate`, `Parse`, `Validate` and the schema-file functions reachable from them -/
theorem no_schema_writes : Gen.schemaWrites = [] := executions_write_no_schema

/-- Validate changes a primitive value only through Default, Catch and PostTransform -/
theorem validate_prim_frame (env : Env) (p : Prim) (path : List String) (d : DVal) (st : St)
    (hd : p.dflt = none) (hc : p.ctch = none) (hp : p.posts = []) :
    (prim env .validate p path .nil d st).1 = d := by
  unfold prim primBody
  rw [hd, hc, hp, runPosts_nil]
  cases Engine.primAbsent .validate .nil d
  · rfl
  · cases p.required <;> rfl

/-- `SliceSchema.validate` gives the validated value a deep copy of a nested Default (probe: nested default,
    in-place write through the validated value, second use) -/
theorem default_copy_is_deep : Gen.sliceDefaultDeep = true := by decide

/-- **The schema's default is out of reach of the destination.** The validated value is a deep copy
    (`Alias.deepCopy`) allocated above every address the default mentions: it has the default's value, all its
    arrays are fresh, and no in-place writes to them, or to anything allocated later, change what the default
    reads. -/
theorem default_out_of_reach (dflt : Alias.HV) (next : Nat) (hd : ∀ a ∈ Alias.addrs dflt, a < next)
    (ws : List (Nat × Nat × Alias.HV)) (hw : ∀ w ∈ ws, next ≤ w.1) :
    Alias.writes ws dflt = dflt ∧
    (∀ b ∈ Alias.addrs (Alias.deepCopy next dflt).1, next ≤ b) ∧
    Alias.sameShape (Alias.deepCopy next dflt).1 dflt = true :=
  ⟨Alias.default_out_of_reach dflt next hd ws hw, fun b hb => (Alias.deepCopy_fresh next dflt b hb).1, Alias.deepCopy_shape next dflt⟩

/-- a write only reaches values that mention its address -/
theorem write_frame (addr i : Nat) (x v : Alias.HV) (h : addr ∉ Alias.addrs v) : Alias.write addr i x v = v :=
  Alias.write_frame addr i x v h

/-- a one-level copy (`Alias.shallowCopy`, defect D29) does share: on `[[1, 2]]` it mentions the default's inner
    array, and `value[0][0] = 9` written there changes the default; the deep copy has arrays of its own (2 and
    3), and the same write there leaves the default as it is -/
theorem shallow_copy_shares_witness :
    (let dflt := Alias.HV.arr 0 [Alias.HV.arr 1 [.leaf 1, .leaf 2]]
     1 ∈ Alias.addrs (Alias.shallowCopy 2 dflt).1 ∧ Alias.leafAt (Alias.write 1 0 (.leaf 9) dflt) [0, 0] = some 9) ∧
    (let dflt := Alias.HV.arr 0 [Alias.HV.arr 1 [.leaf 1, .leaf 2]]
     Alias.addrs (Alias.deepCopy 2 dflt).1 = [2, 3] ∧ Alias.leafAt (Alias.write 3 0 (.leaf 9) dflt) [0, 0] = some 1) :=
  ⟨⟨Alias.shallow_copy_shares.1, Alias.shallow_copy_shares.2.2⟩,
   ⟨Alias.deep_copy_does_not_share.1, Alias.deep_copy_does_not_share.2.1⟩⟩

/-- Validate of an empty slice under a schema with Default `ds` (no PostTransforms, no slice tests) returns a
    slice of `ds`'s length; the value model has no aliasing, so nothing is said about a copy. -/
theorem slice_default_is_copied (env : Env) (elem : Schema) (sm : SliceMods) (ds : List DVal) (path : List String) (st : St)
    (hd : sm.dfltD = some ds) (hp : sm.posts = []) (ht : sm.tests = []) :
    ∃ out, (proc env .validate (.slice elem sm) none path .nil (.slice []) st).1 = .slice out ∧ out.length = ds.length := by
  simp only [proc_slice_eq, sliceBody_eq, sliceSrc, sliceItems, DVal.elems, List.isEmpty_nil, ↓reduceIte, hd, hp, ht, runPosts_nil, testAll]
  refine ⟨_, rfl, ?_⟩
  rw [sliceLoop_length, Engine.zipIdx3_length, List.length_map, Nat.min_self]
  exact Nat.zero_add _

end Zog.Props.C19
