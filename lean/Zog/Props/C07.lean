import Zog.Pool
import Zog.Gen.Facts

/-!
# C07 — each execution is isolated from every other execution
What a call can leave for the next sits in the recycled objects. Contents: the pooled constructors
assign every field read before it is written. Identity (Zog/Pool.lean): no issue object is in the
pool twice, or in the pool and in a caller's result.
-/

namespace Zog.Props.C07
open Zog Pool

def assignedBy (ctor : String) : List String := ((Gen.ctorAssigns.find? (fun p => p.1 == ctor)).map (·.2)).getD []
def fieldsOf (ty : String) : List String := ((Gen.typeFields.find? (fun p => p.1 == ty)).map (·.2)).getD []

/-- written before read on every path (`Test`: each test loop sets it before `test.Func` reads it;
    `HasCaught`: never read); hand-written from the Go source, trusted -/
def deadBeforeWritten : List String := ["Test", "HasCaught"]

def coversAll (ctor ty : String) : Bool :=
  !(fieldsOf ty).isEmpty && (fieldsOf ty).all (fun f => (assignedBy ctor).contains f || deadBeforeWritten.contains f)

/-- **Constructor completeness** for the pairs named, no others: in the regenerated tables each
    assigns every live field of its type; `NewPathBuilder` reslices to `[:1]`. A new field not
    reset, or a dropped reset, fails here. -/
theorem constructors_complete :
    coversAll "NewExecCtx" "ExecCtx" = true ∧
    coversAll "NewZogIssue" "ZogIssue" = true ∧ coversAll "IssueFromTest" "ZogIssue" = true ∧
    coversAll "IssueFromCoerce" "ZogIssue" = true ∧
    coversAll "NewErrsList" "ErrsList" = true ∧ coversAll "NewErrsMap" "ErrsMap" = true ∧
    coversAll "NewSchemaCtx" "SchemaCtx" = true ∧ coversAll "NewValidateSchemaCtx" "SchemaCtx" = true ∧
    (assignedBy "NewPathBuilder").contains "reslice[:1]" = true := by
  decide +kernel

theorem reinit_is_fresh (assigned : List String) (dirt fresh : Record) (f : String) (h : assigned.contains f = true) :
    reinit assigned dirt fresh f = fresh f :=
  if_pos h

/-- if every live field is assigned, nothing the previous user left reaches the live contents.
    From `coversAll` to `h`: by reading, not a theorem. -/
theorem reinit_independent_of_dirt (assigned live : List String) (h : ∀ f ∈ live, assigned.contains f = true)
    (dirt₁ dirt₂ fresh : Record) : ∀ f ∈ live, reinit assigned dirt₁ fresh f = reinit assigned dirt₂ fresh f :=
  fun f hf => (reinit_is_fresh assigned dirt₁ fresh f (h f hf)).trans (reinit_is_fresh assigned dirt₂ fresh f (h f hf)).symm

/-- regenerated go/ast fact: `Issues.CollectMap` skips `$first`, an alias of an issue also under
    its path key -/
theorem skips_first : Gen.collectMapSkipsFirst = true := by decide

/-- `Owned s` says this of `s.pool ++ s.live.flatten`; which list holds an id does not matter, so
    each step below permutes that list or adds `next` -/
def OwnedIds (l : List Nat) (next : Nat) : Prop := l.Nodup ∧ ∀ id ∈ l, id < next

theorem OwnedIds.perm {l l' : List Nat} {n : Nat} (h : OwnedIds l n) (hp : l'.Perm l) : OwnedIds l' n :=
  ⟨hp.nodup_iff.mpr h.1, fun id hid => h.2 id (hp.mem_iff.mp hid)⟩

theorem OwnedIds.cons_next {l : List Nat} {n : Nat} (h : OwnedIds l n) : OwnedIds (n :: l) (n + 1) :=
  ⟨List.nodup_cons.mpr ⟨fun hm => Nat.lt_irrefl _ (h.2 _ hm), h.1⟩,
    List.forall_mem_cons.mpr ⟨Nat.lt_succ_self _, fun id hid => Nat.lt_succ_of_lt (h.2 id hid)⟩⟩

/-- `acc`: objects the acquiring call already holds -/
theorem acquire_ownedAcc (s : State) (b : Bool) (acc : List Nat)
    (ho : OwnedIds (acc ++ (s.pool ++ s.live.flatten)) s.next) :
    OwnedIds ((acquire s b).2 :: acc ++ ((acquire s b).1.pool ++ (acquire s b).1.live.flatten)) (acquire s b).1.next ∧
      (acquire s b).1.live = s.live := by
  unfold acquire
  split
  · next id rest hp =>
    rw [hp] at ho
    exact ⟨ho.perm List.perm_middle.symm, rfl⟩
  · exact ⟨ho.cons_next, rfl⟩

theorem acquireMany_ownedAcc (k : Nat) (s : State) (takes : List Bool) (acc : List Nat)
    (ho : OwnedIds (acc ++ (s.pool ++ s.live.flatten)) s.next) :
    OwnedIds ((acquireMany s k takes acc).2 ++ ((acquireMany s k takes acc).1.pool ++ (acquireMany s k takes acc).1.live.flatten))
        (acquireMany s k takes acc).1.next ∧
      (acquireMany s k takes acc).1.live = s.live := by
  induction k generalizing s takes acc with
  | zero => exact ⟨ho.perm ((List.reverse_perm acc).append_right _), rfl⟩
  | succ k ih =>
    obtain ⟨h1, h2⟩ := acquire_ownedAcc s (takes.headD false) acc ho
    obtain ⟨h3, h4⟩ := ih _ takes.tail _ h1
    exact ⟨h3, h4.trans h2⟩

theorem flatten_set_perm {α} (live : List (List α)) (r : Nat) (ids new : List α) (h : live[r]? = some ids) :
    (ids ++ (live.set r new).flatten).Perm (new ++ live.flatten) := by
  induction live generalizing r with
  | nil => nomatch h
  | cons l rest ih =>
    cases r with
    | zero =>
      cases h
      exact List.perm_append_comm_assoc ..
    | succ r =>
      exact (List.perm_append_comm_assoc ..).trans (((ih r h).append_left l).trans (List.perm_append_comm_assoc ..))

theorem flatten_set_snoc_perm {α} (live : List (List α)) (r : Nat) (ids : List α) (x : α) (h : live[r]? = some ids) :
    ((live.set r (ids ++ [x])).flatten).Perm (x :: live.flatten) :=
  (List.perm_append_left_iff ids).mp ((flatten_set_perm live r ids _ h).trans (.of_eq (List.append_assoc ..)))

/-- `step true`: CollectMap skips `$first` -/
theorem step_owned (s : State) (op : Op) (ho : Owned s) : Owned (step true s op) := by
  cases op with
  | call k takes =>
    obtain ⟨h, -⟩ := acquireMany_ownedAcc k s takes [] ho
    refine h.perm ?_
    -- pool ++ (live ++ got) ~ got ++ (pool ++ live)
    simp only [step, List.flatten_concat]
    rw [← List.append_assoc]
    exact List.perm_append_comm
  | start =>
    simp only [step, Owned, List.flatten_concat, List.append_nil]
    exact ho
  | acq r b =>
    simp only [step]
    split
    · exact ho
    · next ids hr =>
      obtain ⟨h, hl⟩ := acquire_ownedAcc s b [] ho
      exact h.perm (((flatten_set_snoc_perm _ r ids _ (hl ▸ hr)).append_left _).trans List.perm_middle)
  | collect r =>
    simp only [step, ↓reduceIte]
    split
    · exact ho
    · next ids hr =>
      refine OwnedIds.perm ho ?_
      rw [List.append_assoc]
      exact (flatten_set_perm s.live r ids [] hr).append_left _

/-- **Ownership invariant over every history** of calls and Collect* hand-backs, whatever
    `sync.Pool` handed out: no issue object is in the pool twice, or both in the pool and in a result
    a caller still holds. A result may be handed back twice: the second time frees nothing. -/
theorem ownership_invariant (ops : List Op) : Owned (run Gen.collectMapSkipsFirst ops) := by
  rw [skips_first]
  exact List.foldlRecOn ops (step true) (motive := Owned) ⟨List.nodup_nil, nofun⟩ fun s hs op _ => step_owned s op hs

-- without the skip (`run false`) one collected result puts the first issue in the pool twice
example : (run false [.call 2 [], .collect 0]).pool = [0, 1, 0] := by decide
example : (run true [.call 2 [], .collect 0]).pool = [0, 1] := by decide

/-- executions write no schema object and no package-level variable, and a schema's closures keep
    no state (regenerated go/ast facts) -/
theorem schemas_carry_nothing_over : Gen.schemaWrites = [] ∧ Gen.closureWrites = [] := by decide

end Zog.Props.C07
