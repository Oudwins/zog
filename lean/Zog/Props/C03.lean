import Zog.Props.FactsOK
import Zog.Coerce
import Zog.Placed

/-!
# C03 — on success the destination holds the documented coercion of the input
`Spec.Placed` (Zog/Placed.lean) says what the destination of a clean Parse holds, node by node; the
coercers are those of Zog/Coerce.lean, with `time.Parse`, `strconv.ParseFloat`, `fmt %v` as
parameters (`ext : Ext`).
-/

namespace Zog.Props.C03
open Zog Spec

-- entries of the documented coercion table

theorem bool_table :
    coerceBool (.str "on") = some true ∧ coerceBool (.str "off") = some false ∧
    coerceBool (.str "true") = some true ∧ coerceBool (.str "false") = some false ∧
    coerceBool (.str "1") = some true ∧ coerceBool (.str "0") = some false ∧
    coerceBool (.int .int 1) = some true ∧ coerceBool (.int .int 0) = some false ∧
    coerceBool (.bool true) = some true ∧ coerceBool (.int .int 2) = none ∧ coerceBool (.str "yes") = none := by
  decide +kernel

theorem int_from_string : coerceInt (.str "1") = some 1 ∧ coerceInt (.str "-12") = some (-12) ∧
    coerceInt (.str "+5") = some 5 ∧ coerceInt (.str "007") = some 7 ∧
    coerceInt (.str " 5") = none ∧ coerceInt (.str "1_0") = none ∧ coerceInt (.str "0x10") = none ∧
    coerceInt (.str "5.0") = none ∧ coerceInt (.str "") = none := by
  decide +kernel

/-- any value coerces to its `%v` rendering; a string to itself -/
theorem string_is_display (ext : Ext) (v : Val) :
    coerceString ext v = match v with | .str s => s | v => ext.display v := by
  cases v <;> rfl

/-- a `time.Time` is itself, a string goes through `time.Parse` with the coercer's layout
    (`Time.Format` sets it), unix seconds become that instant -/
theorem time_table (ext : Ext) (layout s : String) (n ns : Int) (u : Bool) :
    coerceTime ext layout (.time ns u) = some (ns, u) ∧
    coerceTime ext layout (.str s) = ext.parseTime layout s ∧
    coerceTime ext layout (.int .int n) = some (n * 1000000000, false) ∧
    coerceTime ext layout (.int .i64 n) = some (n * 1000000000, false) := ⟨rfl, rfl, rfl, rfl⟩

/-- a scalar becomes a one-element slice, a slice stays itself -/
theorem slice_table (xs : List Val) (s : String) (n : Int) :
    coerceSlice (.list xs) = some xs ∧ coerceSlice (.str s) = some [.str s] ∧
    coerceSlice (.int .int n) = some [.int .int n] := ⟨rfl, rfl, rfl⟩

/-- the destination slice has the length of the coerced input (slice node without PostTransforms) -/
theorem slice_length_preserved (env : Env) (elem : Schema) (sm : SliceMods) (path : List String)
    (v : Val) (xs : List Val) (d : DVal) (st : St)
    (hpres : isParseZero v = false) (hco : sm.coerce v = some xs) (hp : sm.posts = []) :
    ∃ out, (proc env .parse (.slice elem sm) none path v d st).1 = .slice out ∧ out.length = xs.length := by
  have hs : sliceSrc .parse sm v d = .items xs (xs.map fun _ => sm.zeroElem) := by simp [sliceSrc, hpres, hco]
  rw [proc_slice_eq, hp, runPosts_nil, sliceBody_eq, hs]
  exact ⟨_, rfl, by simp [sliceLoop_length, Engine.zipIdx3_length]⟩

/-- writing Go field `k'` leaves every other field as it was -/
theorem set_leaves_other_fields (d : DVal) (k k' : String) (x : DVal) (h : (k == k') = false) :
    (d.set k' x).get k = d.get k :=
  DVal.get_set_other d k k' x (by simpa using h)

/-- an optional pointer node on a nil input leaves a nil destination pointer nil -/
theorem ptr_nil_stays_nil (env : Env) (elem : Schema) (zp : DVal) (path : List String) (st : St) :
    (proc env .parse (.ptr elem zp none) none path .nil (.ptr none) st).1 = .ptr none := by
  simp [proc_ptr, Engine.ptrAbsent, isParseZero]

/-- a present input is placed as what the node's own coercer makes of it (`WithCoercer`,
    `Time.Format` decide at construction which coercer that is) -/
theorem coercer_selected (env : Env) (p : Prim) (path : List String) (v : Val) (x d : DVal) (st : St)
    (hpres : isParseZero v = false) (hco : p.coerce v = some x) (hc : p.ctch = none)
    (hall : p.tests.all (fun t => t.pred x) = true) (hp : p.posts = []) :
    (prim env .parse p path v d st).1 = x := by
  unfold prim primBody tested
  simp only [Engine.primAbsent, hpres, Bool.false_eq_true, ↓reduceIte, hco, hc, hp, runPosts_nil]

/-- **C03 at every depth** (mechanism model, regenerated facts): when Parse reports no issue the
    destination is `Spec.Placed` — leaf = coercion of the input at its key or index (or the Default
    of an absent leaf, or the Catch value), slice length and order = the input's, absent optional
    nodes untouched, present pointers allocated, unnamed fields not written. PostTransforms rewrite
    the destination by design, hence `postFree`. -/
theorem clean_parse_is_placed (env : Env) (s : Schema) (hp : s.postFree = true) (hw : s.WF)
    (tag : Option String) (v : Val) (d : DVal)
    (h : (Engine.run env Gen.facts .parse s tag v d).2.sink = []) :
    Placed s tag v d (Engine.run env Gen.facts .parse s tag v d).1 := by
  rw [engine_is_spec] at h ⊢
  exact placed_of_clean env s hp hw tag [] v d h

-- `Placed` read back, one node kind at a time

/-- a present leaf without Catch holds the coercion of its input -/
theorem placed_leaf_present (p : Prim) (tag : Option String) (v : Val) (d out : DVal) (hc : p.ctch = none)
    (hv : isParseZero v = false) (h : Placed (.prim p) tag v d out) : p.coerce v = some out := by
  simp only [Placed, PrimPlaced, hc, hv, Bool.false_eq_true, false_and, false_or, true_and, reduceCtorEq] at h
  exact h

/-- an absent leaf without Default or Catch is left untouched -/
theorem placed_leaf_absent (p : Prim) (tag : Option String) (v : Val) (d out : DVal) (hc : p.ctch = none) (hd : p.dflt = none)
    (hv : isParseZero v = true) (h : Placed (.prim p) tag v d out) : out = d := by
  simp only [Placed, PrimPlaced, hc, hd, hv, Bool.true_eq_false, false_and, or_false, false_or, true_and, reduceCtorEq] at h
  exact h.2

/-- slices: the destination has the input's length, element i is placed from input element i -/
theorem placed_slice (elem : Schema) (sm : SliceMods) (tag : Option String) (v : Val) (d out : DVal) (xs : List Val)
    (hv : isParseZero v = false) (hco : sm.coerce v = some xs) (h : Placed (.slice elem sm) tag v d out) :
    ∃ outs, out = .slice outs ∧ outs.length = xs.length ∧ ∀ x ∈ xs.zip outs, Placed elem none x.1 sm.zeroElem x.2 := by
  simp only [Placed, sliceSrc, hv, Bool.false_eq_true, ↓reduceIte, hco] at h
  exact h

/-- pointers: an absent input leaves the pointer as it was (nil stays nil) -/
theorem placed_ptr_absent (elem : Schema) (zp : DVal) (nn : Option Test) (tag : Option String) (v : Val) (d out : DVal)
    (hv : isParseZero v = true) (h : Placed (.ptr elem zp nn) tag v d out) : out = d := by
  simp only [Placed, hv, ↓reduceIte] at h
  exact h.1

/-- pointers: a present input allocates, and the pointee is what the element schema placed -/
theorem placed_ptr_present (elem : Schema) (zp : DVal) (nn : Option Test) (tag : Option String) (v : Val) (d out : DVal)
    (hv : isParseZero v = false) (h : Placed (.ptr elem zp nn) tag v d out) :
    ∃ o, out = .ptr (some o) ∧ Placed elem tag v (d.pointee zp) o := by
  simp only [Placed, hv, Bool.false_eq_true, ↓reduceIte] at h
  exact h

/-- structs: fields the schema does not name are never written, and no field appears or disappears -/
theorem placed_struct_frame (fs : Fields) (tests : List Test) (posts : List Post) (tag : Option String) (v : Val) (d out : DVal)
    (h : Placed (.struct fs tests posts) tag v d out) :
    (∀ n, n ∉ fs.goNames → out.get n = d.get n) ∧ (∀ n, out.has n = d.has n) := by
  simp only [Placed] at h
  obtain ⟨_, _, h1, h2, _⟩ := h
  exact ⟨h1, h2⟩

-- non-vacuity: a clean nested Parse (string leaf, slice of ints, absent optional pointer, a Go field
-- `Extra` the schema does not name) and the destination it leaves
section witness
def strP : Prim := { kind := .str, coerce := fun v => match v with | .str s => some (.str s) | _ => none }
def intP : Prim := { kind := .num .int, coerce := fun v => match v with | .int _ n => some (.int .int n) | _ => none }
def sliceM : SliceMods := { coerce := fun v => match v with | .list xs => some xs | _ => none, zeroElem := .int .int 0 }
def wS : Schema := .struct
  (.cons "name" ⟨"Name", []⟩ (.prim strP)
    (.cons "tags" ⟨"Tags", []⟩ (.slice (.prim intP) sliceM)
      (.cons "on" ⟨"On", []⟩ (.ptr (.prim intP) (.int .int 0) none) .nil))) [] []
def wV : Val := .obj [("name", .str "x"), ("tags", .list [.int .int 3, .int .int 4])]
def wD0 : DVal := .struct [("Name", .str ""), ("Tags", .slice []), ("On", .ptr none), ("Extra", .int .int 7)]

example : (Spec.run ⟨fun _ _ _ => "m", fun _ => []⟩ .parse wS none wV wD0).2.sink = [] ∧
    (Spec.run ⟨fun _ _ _ => "m", fun _ => []⟩ .parse wS none wV wD0).1 =
      .struct [("Name", .str "x"), ("Tags", .slice [.int .int 3, .int .int 4]), ("On", .ptr none), ("Extra", .int .int 7)] :=
  ⟨rfl, rfl⟩
example : wS.postFree = true := by decide
end witness

end Zog.Props.C03
