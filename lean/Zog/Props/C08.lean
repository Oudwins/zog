import Zog.Props.C07

/-!
# C08 — schemas are safe to share between goroutines   (partial: see DESIGN.md §11)
Schedule-independence in the ownership model: every interleaving of the acquire / release steps of
concurrent calls is just another operation list, so the ownership invariant of C07 covers it.
Data-race freedom in the sense of the Go memory model is not expressible here; the race-detector
stream is supporting evidence.
-/

namespace Zog.Props.C08
open Zog Pool

/-- `C07.ownership_invariant` restated: every interleaving of `start` / single-object `acq` /
    `collect` / whole `call` steps of concurrent executions is an operation list -/
theorem every_interleaving_owned (ops : List Op) : Owned (run Gen.collectMapSkipsFirst ops) :=
  C07.ownership_invariant ops

theorem flatten_disjoint (live : List (List Nat)) (i j : Nat) (a b : List Nat) (hnd : live.flatten.Nodup)
    (hij : i < j) (ha : live[i]? = some a) (hb : live[j]? = some b) : ∀ x, x ∈ a → x ∉ b := by
  obtain ⟨hi, rfl⟩ := List.getElem?_eq_some_iff.mp ha
  obtain ⟨hj, rfl⟩ := List.getElem?_eq_some_iff.mp hb
  exact fun x hxa hxb =>
    List.pairwise_iff_getElem.mp (List.pairwise_flatten.mp hnd).2 i j hi hj hij x hxa x hxb rfl

/-- at every point of every interleaving two rows of `live` (running calls, or results a caller
    still holds) are disjoint: an object handed to one call is handed to no other until released -/
theorem concurrent_calls_hold_disjoint_objects (ops : List Op) (i j : Nat) (a b : List Nat) (hij : i < j)
    (ha : (run Gen.collectMapSkipsFirst ops).live[i]? = some a) (hb : (run Gen.collectMapSkipsFirst ops).live[j]? = some b) :
    ∀ x, x ∈ a → x ∉ b := by
  have h := (every_interleaving_owned ops).1
  exact flatten_disjoint _ i j a b (List.nodup_append.mp h).2.1 hij ha hb

/-- the sugar helpers read the messages before handing the issues to the pool (regenerated go/ast fact) -/
theorem helpers_read_before_free : Gen.helpersReadBeforeFree = true := by decide

theorem mem_sanitizeAndCollect {skips readFirst : Bool} {s : State} {r : Nat} {p : Nat × Bool}
    (hp : p ∈ (sanitizeAndCollect skips readFirst s r).2) :
    ∃ ids, s.live[r]? = some ids ∧ p.1 ∈ ids ∧
      p.2 = !(if readFirst then s else step skips s (.collect r)).pool.contains p.1 := by
  obtain ⟨id, hid, rfl⟩ := List.mem_map.mp hp
  revert hid
  cases s.live[r]? with
  | none => exact nofun
  | some ids => exact fun hid => ⟨ids, rfl, hid, rfl⟩

/-- a helper that reads first reads only objects its caller owns -/
theorem read_then_free_reads_owned_objects (skips : Bool) (s : State) (ho : Owned s) (r : Nat) :
    ∀ p ∈ (sanitizeAndCollect skips true s r).2, p.2 = true := by
  intro p hp
  obtain ⟨ids, hl, hid, h2⟩ := mem_sanitizeAndCollect hp
  have hflat : p.1 ∈ s.live.flatten := List.mem_flatten.mpr ⟨ids, List.mem_of_getElem? hl, hid⟩
  have hnot : p.1 ∉ s.pool := fun hin => (List.nodup_append.mp ho.1).2.2 _ hin _ hflat rfl
  simpa [hnot] using h2

/-- so, at every point of every interleaving, every object `Sanitize…AndCollect` reads is still
    owned by the caller when read -/
theorem helpers_read_only_owned_objects (ops : List Op) (r : Nat) :
    ∀ p ∈ (sanitizeAndCollect Gen.collectMapSkipsFirst Gen.helpersReadBeforeFree (run Gen.collectMapSkipsFirst ops) r).2, p.2 = true := by
  rw [helpers_read_before_free]
  exact read_then_free_reads_owned_objects _ _ (every_interleaving_owned ops) r

/-- the other order is wrong: a helper that frees first reads only objects already in the pool -/
theorem free_then_read_reads_pooled_objects (skips : Bool) (s : State) (r : Nat) :
    ∀ p ∈ (sanitizeAndCollect skips false s r).2, p.2 = false := by
  intro p hp
  obtain ⟨ids, hl, hid, h2⟩ := mem_sanitizeAndCollect hp
  rw [h2]
  cases skips <;> simp [step, hl, hid]

-- both orders on a result holding two issues
example : (sanitizeAndCollect true true { pool := [], live := [[0, 1]], next := 2 } 0).2 = [(0, true), (1, true)] ∧
    (sanitizeAndCollect true false { pool := [], live := [[0, 1]], next := 2 } 0).2 = [(0, false), (1, false)] := by decide

/-- executions write no schema object and no package-level variable (regenerated go/ast fact): a
    shared schema is only read -/
theorem shared_schema_only_read : Gen.schemaWrites = [] := C07.schemas_carry_nothing_over.1

/-- the closures a schema is made of (every function literal of the library that outlives the
    function building it) write no captured or package-level variable (regenerated go/ast fact):
    nothing inside them for two concurrent calls to race on -/
theorem closures_keep_no_state : Gen.closureWrites = [] := C07.schemas_carry_nothing_over.2

/-- four conjuncts of `C07.constructors_complete`: the constructors of the objects a call computes
    with assign every live field of their types. No call result occurs in the statement: that a
    call on recycled objects computes what it computes on new ones is read from this, not proved. -/
theorem result_independent_of_recycled_contents :
    C07.coversAll "NewExecCtx" "ExecCtx" = true ∧ C07.coversAll "NewSchemaCtx" "SchemaCtx" = true ∧
    C07.coversAll "IssueFromTest" "ZogIssue" = true ∧ C07.coversAll "IssueFromCoerce" "ZogIssue" = true :=
  have ⟨hExec, _, hTest, hCoerce, _, _, hCtx, _⟩ := C07.constructors_complete
  ⟨hExec, hCtx, hTest, hCoerce⟩

end Zog.Props.C08
