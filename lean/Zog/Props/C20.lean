import Zog.Preds
import Zog.PredsLaws
import Zog.Gen.Regex

/-!
# C20 — built-in tests decide exactly their documented predicate
The executable predicates of `Zog/Preds.lean` (which the driver runs against the real tests) read as
propositions; for a `decide P` or a `List.any` the `*_spec` lemma only reads the `Bool` as that proposition.
-/

namespace Zog.Props.C20
open Zog

/-- `Min` / `Max` / `Len`: inclusive comparisons on `len()` -/
theorem lenMin_spec (n : Int) (d : DVal) : lenMin n d = true ↔ n ≤ (d.len : Int) := by simp [lenMin]
theorem lenMax_spec (n : Int) (d : DVal) : lenMax n d = true ↔ (d.len : Int) ≤ n := by simp [lenMax]
theorem lenEq_spec (n : Int) (d : DVal) : lenEq n d = true ↔ (d.len : Int) = n := by simp [lenEq]

/-- `len`: UTF-8 byte length of a string, number of elements of a slice -/
theorem len_spec (s : String) (xs : List DVal) : (DVal.str s).len = s.utf8ByteSize ∧ (DVal.slice xs).len = xs.length := ⟨rfl, rfl⟩

theorem len_boundaries (d : DVal) (n : Int) (h : (d.len : Int) = n) :
    lenMin n d = true ∧ lenMin (n + 1) d = false ∧ lenMax n d = true ∧ lenMax (n - 1) d = false ∧
    lenEq n d = true ∧ lenEq (n + 1) d = false ∧ lenEq (n - 1) d = false := by
  simp only [Bool.eq_false_iff, ne_eq, lenMin_spec, lenMax_spec, lenEq_spec, h, true_and]
  omega

/-- `EQ/LT/LTE/GT/GTE` on integers are the comparisons of `Int` -/
theorem cmpInt_spec (v n : Int) :
    (cmpInt .eq v n = true ↔ v = n) ∧ (cmpInt .lt v n = true ↔ v < n) ∧ (cmpInt .lte v n = true ↔ v ≤ n) ∧
    (cmpInt .gt v n = true ↔ v > n) ∧ (cmpInt .gte v n = true ↔ v ≥ n) := by
  simp [cmpInt]

/-- a number test on a value of another Go type is false (failed type assertion) -/
theorem cmp_other_type (op : CmpOp) (k k' : NKind) (a b : Int) (h : k ≠ k') : cmpNum op (.int k' b) (.int k a) = false := by
  simp [cmpNum, h]

/-- NaN is unordered and unequal to everything; -0 equals +0 -/
theorem float_specials (x : FVal) :
    cmpFlt .eq .nan x = false ∧ cmpFlt .lt .nan x = false ∧ cmpFlt .gt .nan x = false ∧
    cmpFlt .lte .nan x = false ∧ cmpFlt .gte .nan x = false ∧
    cmpFlt .eq .nzero (.fin 0 0) = true ∧ cmpFlt .lt .nzero (.fin 0 0) = false :=
  -- only where NaN is the right operand of `goLt` does the shape of `x` matter
  ⟨rfl, rfl, by cases x <;> rfl, rfl, by cases x <;> rfl, rfl, rfl⟩

/-- `OneOf(values)`: membership up to `DVal.beq` -/
theorem oneOf_spec (opts : List DVal) (v : DVal) : oneOf opts v = true ↔ ∃ o ∈ opts, v.beq o = true := by
  simp [oneOf, List.any_eq_true]

/-- slice `Contains(value)`: likewise -/
theorem sliceContains_spec (x : DVal) (xs : List DVal) :
    sliceContains x (.slice xs) = true ↔ ∃ e ∈ xs, e.beq x = true := by
  simp [sliceContains, List.any_eq_true]

/-- `HasPrefix`, `HasSuffix`, `Contains` as decompositions of the character list -/
theorem hasPrefix_spec (pre s : String) : hasPrefix pre (.str s) = true ↔ ∃ t, s.toList = pre.toList ++ t := by
  simp only [hasPrefix, strPred, List.isPrefixOf_iff_prefix]
  exact exists_congr fun _ => eq_comm

theorem hasSuffix_spec (suf s : String) : hasSuffix suf (.str s) = true ↔ ∃ t, s.toList = t ++ suf.toList := by
  simp only [hasSuffix, strPred, List.isSuffixOf_iff_suffix]
  exact exists_congr fun _ => eq_comm

theorem contains_spec (sub s : String) : containsStr sub (.str s) = true ↔ ∃ a b, s.toList = a ++ sub.toList ++ b := by
  simp only [containsStr, strPred, isInfixOfChars_spec]
  exact exists_congr fun _ => exists_congr fun _ => eq_comm

theorem containsUpper_spec (s : String) :
    containsInRanges upperRanges (.str s) = true ↔ ∃ c ∈ s.toList, 'A'.toNat ≤ c.toNat ∧ c.toNat ≤ 'Z'.toNat :=
  containsInRanges_single _ _ s

theorem containsDigit_spec (s : String) :
    containsInRanges digitRanges (.str s) = true ↔ ∃ c ∈ s.toList, '0'.toNat ≤ c.toNat ∧ c.toNat ≤ '9'.toNat :=
  containsInRanges_single _ _ s

/-- ASCII punctuation, as codes -/
def punct : List Nat := "!\"#$%&'()*+,-./:;<=>?@[\\]^_`{|}~".toList.map Char.toNat

/-- the rune ranges of `ContainsSpecial` are exactly the ASCII punctuation codes -/
theorem special_ranges_are_punct (n : Nat) :
    (specialRanges.any (fun r => r.1 ≤ n && n ≤ r.2)) = true ↔ n ∈ [33,34,35,36,37,38,39,40,41,42,43,44,45,46,47,58,59,60,61,62,63,64,91,92,93,94,95,96,123,124,125,126] :=
  -- the list is `specialRanges` enumerated
  any_range_iff_mem specialRanges n

theorem containsSpecial_spec (s : String) :
    containsInRanges specialRanges (.str s) = true ↔
      ∃ c ∈ s.toList, c.toNat ∈ [33,34,35,36,37,38,39,40,41,42,43,44,45,46,47,58,59,60,61,62,63,64,91,92,93,94,95,96,123,124,125,126] := by
  rw [containsInRanges_spec]
  exact exists_congr fun c => and_congr_right fun _ => special_ranges_are_punct c.toNat

/-- multi-byte runes are never upper-case letters, digits or punctuation -/
theorem non_ascii_not_special (c : Char) (h : 128 ≤ c.toNat) :
    inRanges upperRanges c = false ∧ inRanges digitRanges c = false ∧ inRanges specialRanges c = false := by
  -- each table lies within `[0, 127]`
  have out (rs : List (Nat × Nat)) (hrs : rs.all (fun r => [(0, 127)].any fun r' => r'.1 ≤ r.1 && r.2 ≤ r'.2) = true) :
      inRanges rs c = false :=
    Bool.eq_false_iff.mpr fun hc => by
      have := (inRanges_singleton 0 127 c).mp (Rx.inRanges_subset hrs c hc)
      omega
  exact ⟨out _ (by decide), out _ (by decide), out _ (by decide)⟩

/-- `timeCmp` discards the zone flag by definition: a modelling choice (time tests compare instants), not a
    fact about the Go code -/
theorem time_zone_ignored (op : CmpOp) (t ns : Int) (u u' : Bool) :
    timeCmp op t (.time ns u) = timeCmp op t (.time ns u') := rfl

/-- `After` / `Before` / `EQ` compare the instant (unix ns) with the bound -/
theorem time_spec (t ns : Int) (u : Bool) :
    (timeCmp .gt t (.time ns u) = true ↔ ns > t) ∧ (timeCmp .lt t (.time ns u) = true ↔ ns < t) ∧
    (timeCmp .eq t (.time ns u) = true ↔ ns = t) := by
  obtain ⟨heq, hlt, _, hgt, _⟩ := cmpInt_spec ns t
  exact ⟨hgt, hlt, heq⟩

/-! `Gen.uuidRegex` / `Gen.emailRegex` are regenerated from the literals given to `regexp.MustCompile` in
string.go. That `Rx.Re.search` is the semantics of Go's `regexp` is not proved. -/

open Rx in
/-- the pattern in the source is `^H{8}\b-H{4}\b-H{4}\b-H{4}\b-H{12}$` with `H = [0-9A-Fa-f]` -/
theorem uuid_pattern_regenerated : Gen.uuidRegex = some (Re.cat .bot (chainRe hexRanges [8, 4, 4, 4, 12])) := rfl

open Rx in
theorem email_pattern_regenerated : Gen.emailRegex = some emailRe := rfl

/-- **UUID**: the shipped pattern matches a text iff it is 8-4-4-4-12 hexadecimal digits separated by dashes,
    the model of `UUID()`. -/
theorem uuid_regex_is_grammar (r : Rx.Re) (hr : Gen.uuidRegex = some r) (cs : List Char) :
    r.search cs = isUUIDChars cs := by
  rw [uuid_pattern_regenerated] at hr
  cases hr
  exact Rx.uuid_regex_is_grammar cs

/-- **E-mail**: the shipped pattern matches a text iff it is a non-empty local part of letters, digits and
    ``.!#$%&'*+/=?^_`{|}~-``, an `@`, and one or more dot-separated labels of 1 to 63 letters, digits or inner
    hyphens (`Rx.IsEmail`). -/
theorem email_regex_is_grammar (r : Rx.Re) (hr : Gen.emailRegex = some r) (cs : List Char) :
    r.search cs = true ↔ Rx.IsEmail cs := by
  rw [email_pattern_regenerated] at hr
  cases hr
  exact Rx.email_regex_is_grammar cs

/-- the model of `Email()` runs that pattern, hence the grammar -/
theorem email_model_is_grammar (s : String) : isEmail s = true ↔ Rx.IsEmail s.toList :=
  Rx.email_regex_is_grammar s.toList

theorem uuid_length (s : String) (h : isUUID s = true) : s.toList.length = 36 :=
  Rx.segs_length (Rx.inRanges Rx.hexRanges) [8, 4, 4, 4, 12] (none, s.toList) h

example : isUUID "123e4567-e89b-12d3-a456-426614174000" = true := by rw [isUUID_ofList]; decide +kernel
example : isUUID "123e4567-e89b-12d3-a456-42661417400" = false := by rw [isUUID_ofList]; decide +kernel
example : isUUID "123e4567-e89b-12d3-a456_426614174000" = false := by rw [isUUID_ofList]; decide +kernel
example : isEmail "a@b.co" = true := by rw [isEmail_ofList]; decide +kernel
example : isEmail "a@b..co" = false := by rw [isEmail_ofList]; decide +kernel
example : isEmail "@b.co" = false := by rw [isEmail_ofList]; decide +kernel
example : Rx.IsEmail "a@b.co".toList :=
  ⟨['a'], ['b'], [['c', 'o']], String.toList_ofList, by decide, by decide,
    ⟨'b', [], rfl, by decide, .inl rfl⟩, fun l hl => by
      cases List.mem_singleton.mp hl
      exact ⟨'c', ['o'], rfl, by decide, .inr ⟨[], 'o', rfl, by decide, List.forall_mem_nil _, by decide⟩⟩⟩

end Zog.Props.C20
