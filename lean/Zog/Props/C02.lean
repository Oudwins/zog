import Zog.Props.FactsOK
import Zog.Exact
import Zog.IssueMap
import Zog.Props.C04

/-!
# C02 — every violation is reported exactly once, where it occurred, and nothing else
The reference semantics `Spec` is the executable definition of "exactly the violations": the node
theorems say what it reports at one node, the whole-tree theorems that no issue is recorded iff
`NoViol` / `NoViolU` (Zog/Exact.lean, stated without issues) holds of the tree. `engine_is_spec`
carries them to the mechanism model.
-/

namespace Zog.Props.C02
open Zog Spec

/-- the test loop of a non-catching node reports every failing test, not only the first, once each
    in declaration order, and nothing else -/
theorem all_failing_tests_reported (env : Env) (dt ps : String) (tests : List Test) (x : DVal) (st : St) :
    (testAll env dt ps tests x st).sink = st.sink ++ (failing tests x).map (issueOfTest env ps dt) :=
  testAll_sink env dt ps tests x st

/-- the issue of a failed test has that test's code and sits at the test's `IssuePath`, else at the
    node's path -/
theorem issue_code_and_path (env : Env) (dt ps : String) (t : Test) :
    (issueOfTest env ps dt t).code = t.code ∧ (issueOfTest env ps dt t).path = t.issuePath.getD ps ∧
    (issueOfTest env ps dt t).dtype = dt ∧ (issueOfTest env ps dt t).params = t.params := ⟨rfl, rfl, rfl, rfl⟩

/-- a value that passes every test of its node yields no issue -/
theorem satisfied_no_issue (env : Env) (dt ps : String) (tests : List Test) (x : DVal) (st : St)
    (h : tests.all (fun t => t.pred x) = true) : (testAll env dt ps tests x st).sink = st.sink :=
  (testAll_clean_iff env dt ps tests x st).mpr h

/-- a missing required value (no Default, no Catch) yields one issue, that of the Required test; the
    node's tests do not run and the destination is untouched -/
theorem missing_required_one_issue (env : Env) (m : Mode) (p : Prim) (r : Test) (path : List String)
    (v : Val) (d : DVal) (st : St)
    (habs : Engine.primAbsent m v d = true) (hd : p.dflt = none) (hr : p.required = some r) (hc : p.ctch = none) :
    primBody env m p path v d st = (d, emit st (issueOfTest env (render path) p.kind.dtype r)) :=
  C04.absent_required env m p r path v d st habs hd hr hc

/-- a present value that does not coerce (Parse, no Catch) yields one `coerce` issue; the node's
    tests do not run and the destination is untouched -/
theorem uncoercible_one_issue (env : Env) (p : Prim) (path : List String) (v : Val) (d : DVal) (st : St)
    (hpres : Engine.primAbsent .parse v d = false) (hco : p.coerce v = none) (hc : p.ctch = none) :
    primBody env .parse p path v d st = (d, emit st (coerceIssue env (render path) p.kind.dtype)) := by
  unfold primBody; rw [if_neg (ne_true_of_eq_false hpres), hco, hc]

/-- a slice (without PostTransforms) whose input cannot be made a slice: one `coerce` issue; no
    element is visited, no test runs -/
theorem slice_uncoercible (env : Env) (elem : Schema) (sm : SliceMods) (path : List String) (v : Val) (d : DVal) (st : St)
    (hpres : isParseZero v = false) (hco : sm.coerce v = none) (hp : sm.posts = []) :
    proc env .parse (.slice elem sm) none path v d st = (d, emit st (coerceIssue env (render path) "slice")) := by
  simp [proc_slice_eq, sliceBody_eq, sliceSrc, sliceFail, hpres, hco, hp, runPosts_nil]

/-- a struct (without PostTransforms) whose input is not a record: one `coerce` issue; no field is
    visited -/
theorem struct_uncoercible (env : Env) (fs : Fields) (tests : List Test) (path : List String) (v : Val) (d : DVal) (st : St)
    (hco : Engine.provOf v = none) :
    proc env .parse (.struct fs tests []) none path v d st = (d, emit st (coerceIssue env (render path) "struct")) := by
  simp [proc_struct_eq, structBody_eq, structProv, hco, runPosts_nil]

/-- the map the caller receives is nil exactly when no issue was recorded -/
theorem nil_iff_no_issue (sink : List Issue) : toIssueMap sink = [] ↔ sink = [] := toIssueMap_eq_nil sink

/-- **No issue iff no violation, at every depth** (reference semantics, PostTransform-free schemas
    whose struct fields have distinct keys and Go fields, `WF`; any visit order): no issue is
    recorded iff nothing is wrong at any node (`NoViol`: present or allowed to be absent, coercible,
    every declared test holding, Catch swallowing only its own node's failures). -/
theorem no_issue_iff_no_violation_spec (env : Env) (m : Mode) (s : Schema) (hp : s.postFree = true) (hw : s.WF)
    (tag : Option String) (v : Val) (d : DVal) :
    (Spec.run env m s tag v d).2.sink = [] ↔ NoViol env m s tag [] v d :=
  clean_iff env m s hp hw tag [] v d

/-- the same for the mechanism model under the regenerated facts and the map the caller receives -/
theorem no_issue_iff_no_violation (env : Env) (m : Mode) (s : Schema) (hp : s.postFree = true) (hw : s.WF)
    (tag : Option String) (v : Val) (d : DVal) :
    toIssueMap (Engine.run env Gen.facts m s tag v d).2.sink = [] ↔ NoViol env m s tag [] v d := by
  rw [nil_iff_no_issue, engine_is_spec]
  exact clean_iff env m s hp hw tag [] v d

/-- **The result is nil iff there is no violation, PostTransforms included** (mechanism model,
    regenerated facts): nothing is wrong at any node and every PostTransform that runs succeeds
    (`NoViolU`; a node's tests are judged on the value it has when they run, its PostTransforms on
    what the tests left). -/
theorem no_issue_iff_no_violation_all (env : Env) (m : Mode) (s : Schema) (hw : s.WF)
    (tag : Option String) (v : Val) (d : DVal) :
    toIssueMap (Engine.run env Gen.facts m s tag v d).2.sink = [] ↔ NoViolU env m s tag [] v d := by
  rw [nil_iff_no_issue, engine_is_spec]
  exact cleanU_iff env m s hw tag [] v d

/-- contrapositive of `no_issue_iff_no_violation`: a violation anywhere gives at least one issue -/
theorem violation_is_reported (env : Env) (m : Mode) (s : Schema) (hp : s.postFree = true) (hw : s.WF)
    (tag : Option String) (v : Val) (d : DVal) (h : ¬ NoViol env m s tag [] v d) :
    (Engine.run env Gen.facts m s tag v d).2.sink ≠ [] :=
  fun hs => h ((no_issue_iff_no_violation env m s hp hw tag v d).mp ((nil_iff_no_issue _).mpr hs))

/-- `NoViol` at a primitive node without Catch -/
theorem no_violation_at_prim (m : Mode) (p : Prim) (v : Val) (d : DVal) (hc : p.ctch = none) (env : Env) (tag : Option String) (path : List String) :
    NoViol env m (.prim p) tag path v d ↔
      (if Engine.primAbsent m v d = true then
        (match p.dflt with
          | some x => p.tests.all (fun t => t.pred x) = true
          | none => p.required = none)
       else
        (match m with
          | .validate => p.tests.all (fun t => t.pred d) = true
          | .parse => ∃ x, p.coerce v = some x ∧ p.tests.all (fun t => t.pred x) = true)) := by
  show PrimOK m p v d ↔ _
  exact or_iff_right (by rw [hc]; nofun)

/-- non-vacuity, both ways: `NoViol` of a one-test string node holds on a passing input and fails on
    a failing one -/
example :
    let t1 : Test := { id := 1, code := "min", pred := fun d => match d with | .str s => decide (s.length ≥ 2) | _ => false }
    let p : Prim := { kind := .str, tests := [t1], coerce := fun v => match v with | .str s => some (.str s) | _ => none }
    let env : Env := { fmt := fun _ _ _ => "m", ω := fun _ => [] }
    NoViol env .parse (.prim p) none [] (.str "ab") (.str "") ∧ ¬ NoViol env .parse (.prim p) none [] (.str "a") (.str "") := by
  intro t1 p env
  rw [no_violation_at_prim .parse p _ _ rfl, no_violation_at_prim .parse p _ _ rfl]
  -- both inputs are present; `p.coerce` is the identity on strings, and `t1` asks for two characters
  rw [if_neg (by decide), if_neg (by decide)]
  refine ⟨⟨_, rfl, by decide⟩, fun ⟨x, hx, ht⟩ => ?_⟩
  cases Option.some.inj hx
  exact absurd ht (by decide)

/-- `engine_is_spec` restated for the issues -/
theorem engine_reports_spec_issues (env : Env) (m : Mode) (s : Schema) (tag : Option String) (v : Val) (d : DVal) :
    (Engine.run env Gen.facts m s tag v d).2.sink = (Spec.run env m s tag v d).2.sink := by
  rw [engine_is_spec]

end Zog.Props.C02
