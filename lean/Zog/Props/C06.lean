import Zog.Gen.Facts

/-!
# C06 — no input data can make Parse panic   (partial: see DESIGN.md §11)
Zog/Dyn.lean models the glue between input data and the engine that can panic in Go, each panic
behind a guard; which inputs reach it is the model's definition. With the regenerated
`Gen.dynFacts` no modelled piece panics. Panics inside `reflect`, the standard library or user
callbacks are outside the model; only the S-dyn stream (real code under `recover`) covers them.
-/

namespace Zog.Props.C06
open Zog Dyn

/-- the guards are present in the working tree (regenerated go/ast facts) -/
theorem dyn_facts_ok : FactsOK Gen.dynFacts := by decide

/-- upper-casing the first letter of a schema key: any key length, any first letter -/
theorem long_keys_never_panic (firstIsLower : Bool) (keyLen : Nat) :
    (upperFirst Gen.dynFacts firstIsLower keyLen).isPanic = false := by
  simp [upperFirst, dyn_facts_ok.1, Outcome.isPanic]

/-- `{}` gives a nil data provider -/
theorem empty_object_never_panics (isNil : Bool) : (useProvider Gen.dynFacts isNil).isPanic = false := by
  simp [useProvider, dyn_facts_ok.2.1, Outcome.isPanic]

theorem struct_input_never_panics (found exported : Bool) : (readStructField Gen.dynFacts found exported).isPanic = false := by
  simp [readStructField, dyn_facts_ok.2.2.1, Outcome.isPanic]

/-- any tag, including the empty one, at any position of the path -/
theorem any_segment_never_panics (segEmpty prevNonEmpty notFirst : Bool) :
    (renderSegment Gen.dynFacts segEmpty prevNonEmpty notFirst).isPanic = false := by
  simp [renderSegment, dyn_facts_ok.2.2.2.1, Outcome.isPanic]

/-- named or unnamed map types, any key and element type -/
theorem any_map_never_panics (m : MapDesc) : (mapProvider Gen.dynFacts m).isPanic = false := by
  have h := dyn_facts_ok.2.2.2.2.1
  simp only [mapProvider, h, ↓reduceIte, apply_ite Outcome.isPanic]
  simp only [Outcome.isPanic, ite_self]

/-- every dynamic kind gives a record or an issue; only the map case rests on a guard, the others
    cannot panic by definition of `Dyn.toProvider` -/
theorem any_value_never_panics : ∀ k : Kind, (toProvider Gen.dynFacts k).isPanic = false := by
  intro k
  induction k with
  | ptrTo k ih => exact ih
  | map_ m => exact any_map_never_panics m
  | _ => rfl

/-- unwrapping what a Preprocess function returns: nil, a typed-nil pointer, pointers of any depth -/
theorem any_preprocess_result_never_panics : ∀ k : Kind, (unwrapPtr Gen.dynFacts k).isPanic = false := by
  intro k
  induction k with
  | nilPtr => have h := dyn_facts_ok.2.2.2.2.2.1; simp [unwrapPtr, h, Outcome.isPanic]
  | ptrTo k ih => exact ih
  | _ => rfl

theorem promoted_field_never_panics (embeddedIsNil : Bool) : (readPromotedField Gen.dynFacts embeddedIsNil).isPanic = false := by
  simp [readPromotedField, dyn_facts_ok.2.2.2.2.2.2.1, Outcome.isPanic]

/-- a JSON request with or without a body -/
theorem any_body_never_panics (bodyIsNil : Bool) : (decodeBody Gen.dynFacts bodyIsNil).isPanic = false := by
  have h := dyn_facts_ok.2.2.2.2.2.2.2
  cases bodyIsNil <;> simp [decodeBody, h, Outcome.isPanic]

/-- all guards absent: each modelled piece then panics on some input, so each theorem rests on its
    guard -/
def pinned : Dyn.Facts := ⟨false, false, false, false, false, false, false, false⟩
example : (unwrapPtr pinned (.ptrTo .nilPtr)).isPanic = true := by decide
example : (readPromotedField pinned true).isPanic = true := by decide
example : (decodeBody pinned true).isPanic = true := by decide
example : (upperFirst pinned true 40).isPanic = true := by decide
example : (useProvider pinned true).isPanic = true := by decide
example : (readStructField pinned true false).isPanic = true := by decide
example : (renderSegment pinned true true true).isPanic = true := by decide
example : (mapProvider pinned ⟨true, true, .iface, false⟩).isPanic = true := by decide

end Zog.Props.C06
