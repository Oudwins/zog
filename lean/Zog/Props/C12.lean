import Zog.Props.FactsOK
import Zog.Traversal
import Zog.CtxVals
import Zog.Props.C16  -- the order of tests after Merge (`merge_tests`, `merge3_tests`, `heap_refines_pure`) counts for this property too

/-!
# C12 — user callbacks run at the documented times with the node's own value
The event log (`St.log`) records every callback invocation: kind, identity, node path, argument. The per-node
statements are about the reference semantics; `engine_log_is_spec_log` carries the log over to the mechanism
model.
-/

namespace Zog.Props.C12
open Zog Spec

/-- tests of a non-catching node: every callback test runs exactly once, in declaration order, at the node's
    path, with the node's own value -/
theorem tests_run_once_in_order (env : Env) (dt ps : String) (tests : List Test) (x : DVal) (st : St) :
    (testAll env dt ps tests x st).log =
      st.log ++ (tests.filter (·.cb)).map (fun t => (⟨.test, t.id, ps, x⟩ : Event)) :=
  testAll_log env dt ps tests x st

/-- one event per PostTransform, each on the value the previous one left, up to and including the first that
    fails -/
def postEvents (ps : String) : List Post → DVal → List Event
  | [], _ => []
  | p :: rest, x =>
    ⟨.post, p.id, ps, x⟩ ::
      (match p.run x with
       | (x', none) => postEvents ps rest x'
       | (_, some _) => [])

/-- PostTransforms run in declaration order, each at most once, each on the value the previous one
    left; the first error stops the rest -/
theorem posts_in_order_stop_at_first_error (env : Env) (dt ps : String) (posts : List Post) (x : DVal) (st : St) :
    (postLoop env dt ps posts x st).2.log = st.log ++ postEvents ps posts x := by
  induction posts generalizing x st with
  | nil => simp [postLoop, postEvents]
  | cons p rest ih =>
    unfold postLoop postEvents
    cases hr : p.run x with
    | mk x' e =>
      cases e with
      | none => simp only [ih]; simp
      | some e => simp [emit]

/-- a PostTransform loop leaves the earlier issues in place and appends at most one -/
theorem post_error_one_issue (env : Env) (dt ps : String) (posts : List Post) (x : DVal) (st : St) :
    ∃ extra, (postLoop env dt ps posts x st).2.sink = st.sink ++ extra ∧ extra.length ≤ 1 :=
  postLoop_sink_prefix env dt ps posts x st

theorem plain_error_issue_at_node_path (env : Env) (ps dt : String) :
    (issueOfPostErr env ps dt .plain).path = ps ∧ (issueOfPostErr env ps dt .plain).dtype = dt := ⟨rfl, rfl⟩

/-- PostTransforms run only if no issue exists at that moment -/
theorem posts_gated_on_no_issue (env : Env) (dt ps : String) (posts : List Post) (o : Spec.Out) (h : o.2.sink ≠ []) :
    runPosts env dt ps posts o = o := runPosts_of_nonempty env dt ps posts o h

theorem posts_run_when_clean (env : Env) (dt ps : String) (posts : List Post) (o : Spec.Out) (h : o.2.sink = []) :
    runPosts env dt ps posts o = postLoop env dt ps posts o.1 o.2 := by
  unfold runPosts; simp [h]

/-- a primitive whose one PostTransform fails with a plain error after a clean body ends with exactly that
    error's issue at its own path; `p.ctch` is free: Catch does not swallow the error -/
theorem post_error_not_caught (env : Env) (m : Mode) (p : Prim) (q : Post) (path : List String) (v : Val) (d : DVal)
    (hp : p.posts = [q]) (hclean : (primBody env m p path v d {}).2.sink = [])
    (herr : (q.run (primBody env m p path v d {}).1).2 = some .plain) :
    (prim env m p path v d {}).2.sink = [issueOfPostErr env (render path) p.kind.dtype .plain] := by
  unfold prim
  rw [posts_run_when_clean _ _ _ _ _ hclean, hp]
  unfold postLoop
  cases hr : q.run (primBody env m p path v d {}).1 with
  | mk x' e =>
    rw [hr] at herr
    simp only at herr
    subst herr
    simp [emit, hclean]

/-- Parse: a custom schema's function receives the node's own value, once -/
theorem custom_called_with_value (env : Env) (c : CustomSpec) (x : DVal) (path : List String) (v : Val) (d : DVal) (st : St)
    (h : c.accept v = some x) :
    (proc env .parse (.custom c) none path v d st).2.log = st.log ++ [⟨.custom, c.test.id, render path, x⟩] := by
  simp only [proc_custom, h, customRun]; split <;> simp [emit]

/-- Parse: a type mismatch at a custom schema yields one coerce issue and no call -/
theorem custom_mismatch_no_call (env : Env) (c : CustomSpec) (path : List String) (v : Val) (d : DVal) (st : St)
    (h : c.accept v = none) :
    proc env .parse (.custom c) none path v d st = (d, emit st (coerceIssue env (render path) "custom")) := by
  simp only [proc_custom, h]

/-- Parse: a type mismatch at a Preprocess node becomes one coerce issue at the node's path; the
    function is not called and the wrapped schema is skipped (destination and log untouched) -/
theorem pre_mismatch_skips (env : Env) (ps : PreSpec) (inner : Schema) (tag : Option String) (path : List String)
    (v : Val) (d : DVal) (st : St) (h : ps.accept v = false) :
    proc env .parse (.pre ps inner) tag path v d st = (d, emit st (coerceIssue env (render path) inner.dtype)) := by
  simp [proc_pre, h]

/-- Parse: the function is called once, with the node's own input value; its error becomes one issue at the
    node's path (a returned ZogIssue is kept as it is) and the wrapped schema is skipped -/
theorem pre_error_skips (env : Env) (ps : PreSpec) (inner : Schema) (tag : Option String) (path : List String)
    (v v' : Val) (e : PostErr) (d : DVal) (st : St) (h : ps.accept v = true) (hr : ps.run v = (v', some e)) :
    proc env .parse (.pre ps inner) tag path v d st =
      (d, emit { st with log := st.log ++ [⟨.pre, ps.id, render path, .custom v⟩] }
            (issueOfPostErr env (render path) inner.dtype e)) := by
  simp [proc_pre, h, hr]

/-- Parse: on success the wrapped schema processes the function's result at the same path, into the
    same destination, after exactly one logged call with the node's own value -/
theorem pre_ok_runs_inner (env : Env) (ps : PreSpec) (inner : Schema) (tag : Option String) (path : List String)
    (v v' : Val) (d : DVal) (st : St) (h : ps.accept v = true) (hr : ps.run v = (v', none)) :
    proc env .parse (.pre ps inner) tag path v d st =
      proc env .parse inner tag path v' d { st with log := st.log ++ [⟨.pre, ps.id, render path, .custom v⟩] } := by
  simp [proc_pre, h, hr]

/-- Validate: the function is called with the destination's own value; an error is one issue carrying
    the error text and skips the wrapped schema; otherwise its result is stored and then validated -/
theorem pre_validate (env : Env) (ps : PreSpec) (inner : Schema) (tag : Option String) (path : List String)
    (v : Val) (d : DVal) (st : St) :
    proc env .validate (.pre ps inner) tag path v d st =
      (match ps.runD d with
       | (_, some msg) => (d, emit { st with log := st.log ++ [⟨.pre, ps.id, render path, d⟩] }
                                (preErrIssue env (render path) inner.dtype msg))
       | (d', none) => proc env .validate inner tag path v d' { st with log := st.log ++ [⟨.pre, ps.id, render path, d⟩] }) := by
  rw [proc_pre]; rfl

/-- the mechanism model records exactly the reference log: same callbacks, order and arguments -/
theorem engine_log_is_spec_log (env : Env) (m : Mode) (s : Schema) (tag : Option String) (v : Val) (d : DVal) :
    (Engine.run env Gen.facts m s tag v d).2.log = (Spec.run env m s tag v d).2.log := by
  rw [engine_is_spec]

/-- The root instance of `Spec.proc_ev` (a node run at path `p` only logs callbacks at paths
    `render (p ++ suffix)`) on the mechanism model; at the root it constrains nothing, since `render [q] = q` for
    every `q`. -/
theorem callbacks_see_their_own_path (env : Env) (m : Mode) (s : Schema) (tag : Option String) (v : Val) (d : DVal) :
    ∀ e ∈ (Engine.run env Gen.facts m s tag v d).2.log, ∃ chain : List String, e.path = render chain := by
  rw [engine_is_spec]
  exact (proc_ev env m s tag [] v d {}).all

/-- go/ast fact: `NewExecCtx`, which takes an `ExecCtx` from the pool, assigns every field of the type, the
    value map among them -/
theorem exec_ctx_resets_values :
    (let fields := ((Gen.typeFields.find? (fun p => p.1 == "ExecCtx")).map (·.2)).getD []
     let assigned := ((Gen.ctorAssigns.find? (fun p => p.1 == "NewExecCtx")).map (·.2)).getD []
     !fields.isEmpty && fields.all (fun f => assigned.contains f)) = true := by decide +kernel

/-- **`ctx.Get` returns exactly the values passed to this call through `WithCtxValue`**: the last value given for
    the key, nil for a key not passed, whatever earlier executions left in the pooled object. The flag `true` is
    the model's "the constructor resets the map"; no theorem connects it to `exec_ctx_resets_values`. -/
theorem ctx_get_exactly_passed (dirt : CtxVals.M) (earlier : List (List (String × String)))
    (opts : List (String × String)) (k : String) :
    CtxVals.get (CtxVals.exec true (CtxVals.history true dirt earlier) opts) k = CtxVals.passed opts k :=
  CtxVals.get_exactly_passed _ opts k

/-- a key this call did not pass reads nil -/
theorem ctx_get_absent_key (dirt : CtxVals.M) (earlier : List (List (String × String)))
    (opts : List (String × String)) (k : String) (h : ∀ kv ∈ opts, kv.1 ≠ k) :
    CtxVals.get (CtxVals.exec true (CtxVals.history true dirt earlier) opts) k = none := by
  rw [ctx_get_exactly_passed, CtxVals.passed, List.find?_eq_none.mpr, Option.map_none]
  exact fun x hx => mt beq_iff_eq.mp (h x (List.mem_reverse.mp hx))

/-- the last of several values given for one key is the one the callbacks see -/
theorem ctx_last_value_wins (opts : List (String × String)) (k v : String) :
    CtxVals.passed (opts ++ [(k, v)]) k = some v := by
  simp [CtxVals.passed]

/-- a value given for another key changes nothing for this one -/
theorem ctx_other_key_untouched (opts : List (String × String)) (k k' v : String) (h : (k' == k) = false) :
    CtxVals.passed (opts ++ [(k', v)]) k = CtxVals.passed opts k := by
  simp [CtxVals.passed, h]

/-- the reset is what the claim rests on: without it a value of an earlier execution shows through -/
theorem ctx_without_reset_leaks :
    CtxVals.get (CtxVals.exec false (CtxVals.history false none [[("k", "old")]]) []) "k" = some "old" := by
  decide

end Zog.Props.C12
