import Zog.Props.FactsOK
import Zog.Coerce
import Zog.Agree

/-!
# C13 — Parse and Validate agree on fully populated values
"Fully populated" is `Spec.Pres s v d d0`: the input `v` presents the destination value `d`, node by node
(`Zog/Agree.lean`).
-/

namespace Zog.Props.C13
open Zog Spec

/-- a primitive node, before its PostTransforms: if `v` is present and coerces to the non-zero `x`, parsing `v`
    into any destination and validating `x` in place give the same issues, value and callback log -/
theorem prim_modes_agree (env : Env) (p : Prim) (path : List String) (v : Val) (x d0 : DVal) (st : St)
    (hpres : isParseZero v = false) (hco : p.coerce v = some x) (hnz : isZeroD x = false) :
    primBody env .parse p path v d0 st = primBody env .validate p path .nil x st :=
  primBody_agree env p path v .nil x d0 st hpres hco hnz

theorem prim_modes_agree_with_posts (env : Env) (p : Prim) (path : List String) (v : Val) (x d0 : DVal) (st : St)
    (hpres : isParseZero v = false) (hco : p.coerce v = some x) (hnz : isZeroD x = false) :
    prim env .parse p path v d0 st = prim env .validate p path .nil x st := by
  unfold prim; rw [prim_modes_agree env p path v x d0 st hpres hco hnz]

/-- pointers: if the element schema agrees on `v` and `x`, the pointer schema agrees on `v` parsed into a nil
    pointer and a pointer to `x` validated -/
theorem ptr_modes_agree (env : Env) (elem : Schema) (zp : DVal) (nn : Option Test) (path : List String)
    (v : Val) (x : DVal) (st : St) (hpres : isParseZero v = false)
    (ih : proc env .parse elem none path v zp st = proc env .validate elem none path .nil x st) :
    proc env .parse (.ptr elem zp nn) none path v (.ptr none) st =
    proc env .validate (.ptr elem zp nn) none path .nil (.ptr (some x)) st :=
  ptr_agree env elem zp nn none path v .nil x (.ptr none) st hpres ih

/-- the key under which a struct field is looked up and reported: Parse asks the provider (left), Validate
    uses `Engine.keyFor none` (right); for a plain map they are the same by definition -/
theorem same_field_keys (fm : FieldMeta) (k : String) (kvs : List (String × Val)) :
    (Engine.Prov.map kvs).keyFor none fm k = Engine.keyFor none fm k := rfl

/-- custom schemas: given the value itself, both modes run the function on it -/
theorem custom_modes_agree (env : Env) (c : CustomSpec) (path : List String) (v : Val) (x d0 : DVal) (st : St)
    (h : c.accept v = some x) :
    proc env .parse (.custom c) none path v d0 st = proc env .validate (.custom c) none path .nil x st :=
  agree env (.custom c) trivial v .nil x d0 path st h

/-- the default coercers are the identity on values of their own destination type (what `hco` needs) -/
theorem coerce_own_type :
    (∀ n : Int, coerceInt (.int .int n) = some n) ∧ (∀ b : Bool, coerceBool (.bool b) = some b) ∧
    (∀ (ext : Ext) (s : String), coerceString ext (.str s) = s) ∧
    (∀ (ext : Ext) (f : FVal), coerceF64 ext (.f64 f) = some f) ∧
    (∀ (ext : Ext) (l : String) (ns : Int) (u : Bool), coerceTime ext l (.time ns u) = some (ns, u)) :=
  ⟨fun _ => rfl, fun _ => rfl, fun _ _ => rfl, fun _ _ => rfl, fun _ _ _ _ => rfl⟩

/-- `engine_is_spec` in both modes -/
theorem both_modes_refine (env : Env) (s : Schema) (tag : Option String) (v : Val) (d : DVal) :
    Engine.run env Gen.facts .parse s tag v d = Spec.run env .parse s tag v d ∧
    Engine.run env Gen.facts .validate s tag v d = Spec.run env .validate s tag v d :=
  ⟨engine_is_spec _ _ _ _ _ _, engine_is_spec _ _ _ _ _ _⟩

/-- **C13 at every depth** (reference semantics). If `v` is the map presentation of the fully populated `d`
    (`Spec.Pres`: every leaf input present and coercing to the leaf's non-zero value; every slice non-empty,
    presented element by element; every pointer non-nil; every struct input a non-empty map, its destination a
    struct with distinct field names among the schema's, the same in `d0`; no Preprocess node), then parsing `v`
    into the fresh `d0` and validating `d` in place (whatever input Validate is handed) return the same
    destination, issues and callback log. -/
theorem parse_validate_agree_spec (env : Env) (s : Schema) (hw : s.WF) (v v' : Val) (d d0 : DVal)
    (h : Pres s v d d0) :
    Spec.run env .parse s none v d0 = Spec.run env .validate s none v' d :=
  agree env s hw v v' d d0 [] {} h

/-- the same for the mechanism model -/
theorem parse_validate_agree (env : Env) (s : Schema) (hw : s.WF) (v v' : Val) (d d0 : DVal)
    (h : Pres s v d d0) :
    Engine.run env Gen.facts .parse s none v d0 = Engine.run env Gen.facts .validate s none v' d := by
  rw [engine_is_spec, engine_is_spec]
  exact parse_validate_agree_spec env s hw v v' d d0 h

/-- so the issue maps handed to the caller are equal -/
theorem parse_validate_same_issue_map (env : Env) (s : Schema) (hw : s.WF) (v v' : Val) (d d0 : DVal)
    (h : Pres s v d d0) :
    toIssueMap (Engine.run env Gen.facts .parse s none v d0).2.sink =
    toIssueMap (Engine.run env Gen.facts .validate s none v' d).2.sink := by
  rw [parse_validate_agree env s hw v v' d d0 h]

/-- the leaf clause of `Pres`; the default coercers give `hc` on an input of the node's own type -/
theorem pres_prim_own (p : Prim) (v : Val) (x d0 : DVal) (hp : isParseZero v = false) (hz : isZeroD x = false)
    (hc : p.coerce v = some x) : Pres (.prim p) v x d0 :=
  ⟨hp, hz, hc⟩

/-! witness: a three-field struct (string leaf with a failing test and a PostTransform, slice of ints, pointer
    to bool) satisfies `Pres` and `WF`, and the Validate run reports an issue -/
section witness
def strP : Prim := { kind := .str, coerce := fun v => match v with | .str s => some (.str s) | _ => none,
                     tests := [{ id := 1, code := "min", pred := fun _ => false }],
                     posts := [{ id := 2, run := fun x => (x, none) }] }
def intP : Prim := { kind := .num .int, coerce := fun v => match v with | .int _ n => some (.int .int n) | _ => none }
def boolP : Prim := { kind := .bool, coerce := fun v => match v with | .bool b => some (.bool b) | _ => none }
def sliceM : SliceMods := { coerce := fun v => match v with | .list xs => some xs | _ => none, zeroElem := .int .int 0 }
def wS : Schema := .struct
  (.cons "name" ⟨"Name", []⟩ (.prim strP)
    (.cons "tags" ⟨"Tags", []⟩ (.slice (.prim intP) sliceM)
      (.cons "on" ⟨"On", []⟩ (.ptr (.prim boolP) (.bool false) none) .nil))) [] []
def wV : Val := .obj [("name", .str "x"), ("tags", .list [.int .int 3, .int .int 4]), ("on", .bool true)]
def wD : DVal := .struct [("Name", .str "x"), ("Tags", .slice [.int .int 3, .int .int 4]), ("On", .ptr (some (.bool true)))]
def wD0 : DVal := .struct [("Name", .str ""), ("Tags", .slice []), ("On", .ptr none)]

example : Pres wS wV wD wD0 :=
  ⟨_, _, _, rfl, List.cons_ne_nil _ _, rfl, rfl, rfl, by decide, by decide,
    pres_prim_own _ _ _ _ rfl rfl rfl,
    ⟨rfl, _, _, rfl, rfl, List.cons_ne_nil _ _, rfl,
      List.forall_mem_cons.mpr ⟨pres_prim_own _ _ _ _ rfl rfl rfl,
        List.forall_mem_cons.mpr ⟨pres_prim_own _ _ _ _ rfl rfl rfl, nofun⟩⟩⟩,
    ⟨rfl, _, rfl, pres_prim_own _ _ _ _ rfl rfl rfl⟩,
    trivial⟩

example : wS.WF :=
  ⟨by decide, Fields.goNamesInj_of_nodup _ (by decide), trivial, trivial, trivial, trivial⟩

example : (Spec.run ⟨fun _ _ _ => "m", fun _ => []⟩ .validate wS none .nil wD).2.sink.length = 1 := by decide +kernel
end witness

end Zog.Props.C13
