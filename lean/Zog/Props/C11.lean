import Zog.Issues
import Zog.Props.FactsOK
import Zog.Gen.Tables
import Zog.Gen.Catalogue

/-!
# C11 — every issue is fully described and its message is chosen most-specific-first
The catalogue (every built-in test forced to fail once in the compiled library) and the language tables are
regenerated; completeness is `decide` of `entryOK`, a template lookup and placeholder scan written here, not
`Zog.defaultFmt`. Whole executions go through `Spec.CtorInv`.
-/

namespace Zog.Props.C11
open Zog

abbrev CMap := List (List Char × List (List Char × List Char))

def lookupC {α : Type} (kvs : List (List Char × α)) (k : List Char) : Option α :=
  match kvs with
  | [] => none
  | (k', v) :: rest => if k' = k then some v else lookupC rest k

def templateC (m : CMap) (dtype code : List Char) : Option (List Char) :=
  (lookupC m dtype).bind (fun t => lookupC t code)

/-- the text up to the next `}}`, and the rest -/
def takeName : List Char → List Char → Option (List Char × List Char)
  | [], _ => none
  | '}' :: '}' :: rest, acc => some (acc.reverse, rest)
  | c :: rest, acc => takeName rest (c :: acc)

def placeholdersFuel : Nat → List Char → List (List Char)
  | 0, _ => []
  | _, [] => []
  | fuel + 1, '{' :: '{' :: rest =>
    match takeName rest [] with
    | some (name, rest') => name :: placeholdersFuel fuel rest'
    | none => []
  | fuel + 1, _ :: rest => placeholdersFuel fuel rest

/-- the names between `{{` and `}}`, left to right; an unclosed `{{` ends the scan -/
def placeholders (t : List Char) : List (List Char) := placeholdersFuel (t.length + 1) t

def fallbackCode : List Char := "fallback".toList

/-- Checked with this file's own scanner (nothing relates it to `Zog.defaultFmt`): the (type, code) template,
    else the type's `fallback`, exists, is non-empty and names only parameters of the test (none, for the
    fallback). -/
def entryOK (m : CMap) (e : Gen.CatEntry) : Bool :=
  match templateC m e.dtype e.code with
  | some t => !t.isEmpty && (placeholders t).all (fun k => e.paramKeys.contains k)
  | none =>
    match templateC m e.dtype fallbackCode with
    | some t => !t.isEmpty && (placeholders t).isEmpty
    | none => false

def entryDescribed (e : Gen.CatEntry) : Bool := !e.dtype.isEmpty && !e.code.isEmpty

def allTemplates (m : CMap) : List (List Char) := m.flatMap (fun p => p.2.map (·.2))

/-- all sweeps of the shipped tables in one declaration: the kernel evaluates a recurring term once -/
theorem shipped_tables :
    (∀ m ∈ [Gen.enMapC, Gen.esMapC, Gen.defaultMapC],
      Gen.catalogue.all (entryOK m) = true ∧ Gen.userCatalogue.all (entryOK m) = true) ∧
    (allTemplates Gen.enMapC ++ allTemplates Gen.esMapC ++ allTemplates Gen.defaultMapC).all
      (fun t => !(placeholders t).contains "value".toList) = true := by decide +kernel

/-- **Catalogue completeness**: every entry of `Gen.catalogue` passes `entryOK` against `en.Map`. -/
theorem catalogue_complete_en : Gen.catalogue.all (entryOK Gen.enMapC) = true :=
  (shipped_tables.1 _ (.head _)).1
/-- against `es.Map` -/
theorem catalogue_complete_es : Gen.catalogue.all (entryOK Gen.esMapC) = true :=
  (shipped_tables.1 _ (.tail _ (.head _))).1
/-- against the global default `conf.DefaultIssueMessageMap` -/
theorem catalogue_complete_default : Gen.catalogue.all (entryOK Gen.defaultMapC) = true :=
  (shipped_tables.1 _ (.tail _ (.tail _ (.head _)))).1

/-- every entry has a non-empty code and type (`invalid_json` / `invalid_form` are entries too) -/
theorem catalogue_described : Gen.catalogue.all entryDescribed = true := by decide +kernel

/-- every builder, forced to fail, produced exactly one issue (`CatEntry.ok`); the dump is not a stub -/
theorem catalogue_well_formed : Gen.catalogue.all (fun e => e.ok) = true ∧ Gen.catalogue.length ≥ 60 := by decide +kernel

/-- User tests and custom schemas: `Gen.userCatalogue` (the user's own code on every schema type; `z.CustomFunc`
    schemas) passes `entryOK`. No table lists the user's code, so this is the fallback clause of `entryOK`. -/
theorem user_tests_complete_en : Gen.userCatalogue.all (entryOK Gen.enMapC) = true :=
  (shipped_tables.1 _ (.head _)).2
theorem user_tests_complete_es : Gen.userCatalogue.all (entryOK Gen.esMapC) = true :=
  (shipped_tables.1 _ (.tail _ (.head _))).2
theorem user_tests_complete_default : Gen.userCatalogue.all (entryOK Gen.defaultMapC) = true :=
  (shipped_tables.1 _ (.tail _ (.tail _ (.head _)))).2
theorem user_tests_described :
    Gen.userCatalogue.all (fun e => e.ok && entryDescribed e) = true ∧ Gen.userCatalogue.length ≥ 10 := by decide +kernel

/-- no shipped template has the placeholder `{{value}}`, which is why `defaultFmt` does not take the value -/
theorem no_value_placeholder :
    ((allTemplates Gen.enMapC ++ allTemplates Gen.esMapC ++ allTemplates Gen.defaultMapC).all
      (fun t => !(placeholders t).contains "value".toList)) = true := shipped_tables.2

/-! Precedence, most specific first: the three cases of `pickMessage` (`Zog/Msg.lean`). -/

theorem test_message_wins (msg : String) (h : msg ≠ "") (ef : Option (String → String → List (String × String) → String))
    (gf : String → String → List (String × String) → String) (code dtype : String) (params : List (String × String)) :
    pickMessage msg ef gf code dtype params = msg := by
  simp [pickMessage, h]

theorem exec_formatter_next (f gf : String → String → List (String × String) → String) (code dtype : String)
    (params : List (String × String)) : pickMessage "" (some f) gf code dtype params = f code dtype params := by
  simp [pickMessage]

theorem global_formatter_last (gf : String → String → List (String × String) → String) (code dtype : String)
    (params : List (String × String)) : pickMessage "" none gf code dtype params = gf code dtype params := by
  simp [pickMessage]

/-- the issue built for a failing test has the test's code and params, the node's type, and the test's message
    if it has one, else that of `env.fmt` (the execution's formatter, else the global one) -/
theorem issue_of_test_described (env : Env) (ps dt : String) (t : Test) :
    (issueOfTest env ps dt t).code = t.code ∧ (issueOfTest env ps dt t).dtype = dt ∧
    (issueOfTest env ps dt t).params = t.params ∧
    (issueOfTest env ps dt t).message = (if t.msg != "" then t.msg else env.fmt t.code dt t.params) := ⟨rfl, rfl, rfl, rfl⟩

/-- i18n: a language named in this execution's context, if installed, is the one used -/
theorem i18n_uses_ctx_lang (langs : List (String × LangMap)) (dl l : String) (m : LangMap) (code dtype : String)
    (params : List (String × String)) (h : lookupD langs l = some m) :
    i18nFmt langs dl (some l) code dtype params = defaultFmt m code dtype params := by
  simp [i18nFmt, h]

/-- none named: the default language's table (the empty table if it has none) -/
theorem i18n_default_lang (langs : List (String × LangMap)) (dl : String) (code dtype : String)
    (params : List (String × String)) :
    i18nFmt langs dl none code dtype params = defaultFmt ((lookupD langs dl).getD []) code dtype params := rfl

/-- **Only the last installation counts**: after any history of `SetLanguagesErrsMap` calls the global formatter
    is the last call's, reading the language under that call's key from the execution's context. -/
theorem last_installation_wins (base : String → String → List (String × String) → String)
    (hist : List Install) (i : Install) (ctx : List (String × Option String)) :
    installedFmt base (hist ++ [i]) ctx = i18nFmt i.langs i.dflt (lookupD ctx i.langKey).join := by
  simp [installedFmt]

/-- an installation without `WithLangKey` reads the key `lang`, whatever keys earlier ones configured -/
theorem reinstall_resets_lang_key (base : String → String → List (String × String) → String)
    (hist : List Install) (i : Install) (ctx : List (String × Option String)) (hk : i.key = none) :
    installedFmt base (hist ++ [i]) ctx = i18nFmt i.langs i.dflt (lookupD ctx "lang").join := by
  rw [last_installation_wins, Install.langKey, hk]; rfl

/-- witness: `WithLangKey("locale")`, then a plain installation; Spanish under `lang` wins over English under
    the stale key -/
example : installedFmt (fun _ _ _ => "base")
    [{ langs := [("en", [("string", [("required", "is required")])]), ("es", [("string", [("required", "es obligatorio")])])], dflt := "en", key := some "locale" },
     { langs := [("en", [("string", [("required", "is required")])]), ("es", [("string", [("required", "es obligatorio")])])], dflt := "en" }]
    [("lang", some "es"), ("locale", some "en")] "required" "string" [] = "es obligatorio" := by decide +kernel

/-- a language value that is not a string names no language: the default language is used -/
theorem lang_value_not_a_string (base : String → String → List (String × String) → String)
    (hist : List Install) (i : Install) (ctx : List (String × Option String))
    (h : lookupD ctx i.langKey = some none) :
    installedFmt base (hist ++ [i]) ctx = i18nFmt i.langs i.dflt none := by
  rw [last_installation_wins, h]; rfl

/-- **Constructor invariants hold of every issue of every execution**: every issue is built by one of four
    constructors (failing test / Required / NotNil, coercion failure, callback error, Preprocess error in
    Validate). A trap: a PostTransform may return any `*ZogIssue` with a message and it is kept
    (`issueOfPostErr`), so "every issue has a code" is not an instance. -/
theorem issue_invariants_lift (env : Env) (m : Mode) (P : Issue → Prop) (h : Spec.CtorInv env P)
    (s : Schema) (tag : Option String) (v : Val) (d : DVal) :
    ∀ i ∈ (Engine.run env Gen.facts m s tag v d).2.sink, P i := by
  rw [engine_is_spec]
  exact Spec.run_inv env m P h s tag v d

/-- **Every issue carries a message** if the formatter in force never returns the empty string (`Spec.FmtTotal`,
    a hypothesis on `env.fmt` that the catalogue theorems do not discharge). -/
theorem every_issue_has_a_message (env : Env) (hf : Spec.FmtTotal env) (m : Mode)
    (s : Schema) (tag : Option String) (v : Val) (d : DVal) :
    ∀ i ∈ (Engine.run env Gen.facts m s tag v d).2.sink, i.message ≠ "" :=
  issue_invariants_lift env m _ (Spec.message_ctorInv env hf) s tag v d

/-- every `Parse` / `Validate` entry point starts its context from the global `conf.IssueFormatter` (which
    `i18n.SetLanguagesErrsMap` and the user replace), not the built-in default: `Gen.execCtxFormatters` lists
    the second arguments of the `NewExecCtx` calls (go/ast fact) -/
theorem entry_points_start_from_global_formatter : ∀ f ∈ Gen.execCtxFormatters, f = "conf.IssueFormatter" := by decide +kernel

example : Gen.execCtxFormatters ≠ [] := by decide

end Zog.Props.C11
