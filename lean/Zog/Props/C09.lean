import Zog.Props.FactsOK
import Zog.Order
import Zog.ParamsOrder

/-!
# C09 — results do not depend on map iteration or key insertion order
The field visit order of every struct visit is the oracle `env.ω`; the theorems quantify over it.
The full statement is false of model and code alike (known finding D19, /verif/known_findings.json):
its negation is proved by witness, next to what does hold. No theorem here quantifies over the order
of a schema's `Fields` list (the insertion order of the Go map).
-/

namespace Zog.Props.C09
open Zog Spec

/-- whatever the runtime's iteration order, every declared field is visited exactly once -/
theorem visit_order_is_permutation (obs keys : List String) : (Engine.orderOf obs keys).Perm keys :=
  Spec.orderOf_perm obs keys

theorem visit_order_same_length (obs keys : List String) : (Engine.orderOf obs keys).length = keys.length :=
  (visit_order_is_permutation obs keys).length_eq

theorem visit_order_mem (obs keys : List String) (k : String) : k ∈ Engine.orderOf obs keys ↔ k ∈ keys :=
  (visit_order_is_permutation obs keys).mem_iff

/-- `engine_is_spec` with the oracle spelled out -/
theorem engine_is_spec_for_every_order (fmt : String → String → List (String × String) → String)
    (ω : String → List String) (m : Mode) (s : Schema) (tag : Option String) (v : Val) (d : DVal) :
    Engine.run ⟨fmt, ω⟩ Gen.facts m s tag v d = Spec.run ⟨fmt, ω⟩ m s tag v d :=
  engine_is_spec ⟨fmt, ω⟩ m s tag v d

/-- the visit order of a struct with a single field does not depend on the oracle -/
theorem single_field_order_independent (obs₁ obs₂ : List String) (k : String) :
    Engine.orderOf obs₁ [k] = Engine.orderOf obs₂ [k] := by
  simp [Engine.orderOf, Engine.insertRank]

/-- Order independence, reference semantics, well-formed schemas without PostTransforms: any two
    field visit oracles give the same destination, and the same issues and callback events up to
    order. -/
theorem C09_partial_spec (fmt : String → String → List (String × String) → String) (ω₁ ω₂ : String → List String)
    (m : Mode) (s : Schema) (hp : s.postFree = true) (hw : s.WF) (tag : Option String) (v : Val) (d : DVal) :
    (Spec.run ⟨fmt, ω₁⟩ m s tag v d).1 = (Spec.run ⟨fmt, ω₂⟩ m s tag v d).1 ∧
    (Spec.run ⟨fmt, ω₁⟩ m s tag v d).2.sink.Perm (Spec.run ⟨fmt, ω₂⟩ m s tag v d).2.sink ∧
    (Spec.run ⟨fmt, ω₁⟩ m s tag v d).2.log.Perm (Spec.run ⟨fmt, ω₂⟩ m s tag v d).2.log :=
  Spec.proc_order_indep fmt ω₁ ω₂ m s hp hw tag [] v d

/-- **Order independence of PostTransform-free schemas, mechanism model under the regenerated
    facts**: same destination, same issues up to order (the callback log is not in this statement). -/
theorem C09_partial (fmt : String → String → List (String × String) → String) (ω₁ ω₂ : String → List String)
    (m : Mode) (s : Schema) (hp : s.postFree = true) (hw : s.WF) (tag : Option String) (v : Val) (d : DVal) :
    (Engine.run ⟨fmt, ω₁⟩ Gen.facts m s tag v d).1 = (Engine.run ⟨fmt, ω₂⟩ Gen.facts m s tag v d).1 ∧
    (Engine.run ⟨fmt, ω₁⟩ Gen.facts m s tag v d).2.sink.Perm (Engine.run ⟨fmt, ω₂⟩ Gen.facts m s tag v d).2.sink := by
  rw [engine_is_spec, engine_is_spec]
  obtain ⟨h1, h2, _⟩ := C09_partial_spec fmt ω₁ ω₂ m s hp hw tag v d
  exact ⟨h1, h2⟩

/-- corollary (reference semantics, PostTransform-free schemas): if one order reports no issue, none does -/
theorem success_order_independent (fmt : String → String → List (String × String) → String) (ω₁ ω₂ : String → List String)
    (m : Mode) (s : Schema) (hp : s.postFree = true) (hw : s.WF) (tag : Option String) (v : Val) (d : DVal)
    (h : (Spec.run ⟨fmt, ω₁⟩ m s tag v d).2.sink = []) : (Spec.run ⟨fmt, ω₂⟩ m s tag v d).2.sink = [] := by
  have := (C09_partial_spec fmt ω₁ ω₂ m s hp hw tag v d).2.1
  rw [h] at this
  exact List.Perm.eq_nil this.symm

/-- **On success nothing depends on the visit order — every well-formed schema, PostTransforms
    included** (mechanism model under the regenerated facts). If one field-visit oracle gives no
    issue, so does every other, with the same destination and the same callbacks (as a multiset):
    PostTransform gating (D19) only bites on runs that fail somewhere. -/
theorem success_order_independent_all (fmt : String → String → List (String × String) → String) (ω₁ ω₂ : String → List String)
    (m : Mode) (s : Schema) (hw : s.WF) (tag : Option String) (v : Val) (d : DVal)
    (h : (Engine.run ⟨fmt, ω₁⟩ Gen.facts m s tag v d).2.sink = []) :
    (Engine.run ⟨fmt, ω₂⟩ Gen.facts m s tag v d).2.sink = [] ∧
    (Engine.run ⟨fmt, ω₁⟩ Gen.facts m s tag v d).1 = (Engine.run ⟨fmt, ω₂⟩ Gen.facts m s tag v d).1 ∧
    (Engine.run ⟨fmt, ω₁⟩ Gen.facts m s tag v d).2.log.Perm (Engine.run ⟨fmt, ω₂⟩ Gen.facts m s tag v d).2.log := by
  rw [engine_is_spec] at h ⊢  -- the runs under `ω₁`
  rw [engine_is_spec]         -- those under `ω₂`
  exact proc_success_order_indep fmt ω₁ ω₂ m s hw tag [] v d h

/-! ## the full statement is false: PostTransform gating (known finding D19)

`{a: String.PostTransform(upper), b: Int.GT(5)}` with a struct-level test reading `a`:
visiting `a` first runs its PostTransform (no issue yet); visiting `b` first records `gt`, and
`a`'s PostTransform is skipped — the struct-level test then sees a different value. -/

def upperRun (d : DVal) : DVal × Option PostErr :=
  match d with
  | .str _ => (.str "X", none)
  | d => (d, none)
def strCoerce (v : Val) : Option DVal :=
  match v with
  | .str s => some (.str s)
  | _ => none
def intCoerce (v : Val) : Option DVal :=
  match v with
  | .int _ n => some (.int .int n)
  | _ => none
def gt5 (d : DVal) : Bool :=
  match d with
  | .int _ n => decide (n > 5)
  | _ => false
def aIsXPred (d : DVal) : Bool :=
  match d.get "A" with
  | .str s => s == "X"
  | _ => false
def upperA : Post := { id := 1, run := upperRun }
def fieldA : Prim := { kind := .str, posts := [upperA], coerce := strCoerce }
def fieldB : Prim := { kind := .num .int, coerce := intCoerce, tests := [{ id := 2, code := "gt", pred := gt5 }] }
def aIsX : Test := { id := 3, code := "a_upper", pred := aIsXPred }
def witness : Schema :=
  .struct (.cons "a" ⟨"A", []⟩ (.prim fieldA) (.cons "b" ⟨"B", []⟩ (.prim fieldB) .nil)) [aIsX] []
def witnessIn : Val := .obj [("a", .str "x"), ("b", .int .int 1)]
def witnessDest : DVal := .struct [("A", .str ""), ("B", .int .int 0)]
def envAB : Env := { fmt := fun _ _ _ => "m", ω := fun _ => ["a", "b"] }
def envBA : Env := { fmt := fun _ _ _ => "m", ω := fun _ => ["b", "a"] }

/-- **Negation of the full statement, by witness**: the two visit orders report different issues -/
theorem full_statement_false :
    ((Spec.run envAB .parse witness none witnessIn witnessDest).2.sink.map (·.code)) = ["gt"] ∧
    ((Spec.run envBA .parse witness none witnessIn witnessDest).2.sink.map (·.code)) = ["gt", "a_upper"] := by
  decide +kernel

-- non-vacuity: a two-field schema meeting `hp`, `hw` of `C09_partial`
def witnessNoPost : Schema :=
  .struct (.cons "a" ⟨"A", []⟩ (.prim { fieldA with posts := [] }) (.cons "b" ⟨"B", []⟩ (.prim fieldB) .nil)) [aIsX] []

example : witnessNoPost.postFree = true := by decide

example : witnessNoPost.WF :=
  ⟨by decide, Fields.goNamesInj_of_nodup _ (by decide), trivial, trivial, trivial⟩

/-- Messages do not depend on the enumeration order of an issue's Params map: two enumerations of
    one map give the same message under the default formatter — also when a parameter's value holds
    another parameter's placeholder. -/
theorem message_independent_of_param_order (m : LangMap) (code dtype : String) (ps qs : List (String × String))
    (h : ps.Perm qs) (hk : (ps.map (·.1)).Nodup) :
    defaultFmt m code dtype ps = defaultFmt m code dtype qs :=
  defaultFmt_perm m code dtype ps qs h hk

end Zog.Props.C09
