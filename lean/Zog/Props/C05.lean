import Zog.Props.FactsOK
import Zog.Exact
import Zog.Context

/-!
# C05 — Catch replaces any failure of its own node, and only of its own node
A catching node (`primBody`) adds no issue and holds its catch value exactly when something failed.
What the rest of the schema sees of a node is stated with one-hole contexts (`Ctx`,
Zog/Context.lean): `Spec` is a congruence for `SpecEquiv`, and so is the mechanism model with its
shared `CanCatch`/`Exit`.
-/

namespace Zog.Props.C05
open Zog Spec

/-- a node with `Catch(c)` adds no issue: not for a missing required value, a coercion failure or a
    failed test -/
theorem catch_no_issue (env : Env) (m : Mode) (p : Prim) (c : DVal) (hc : p.ctch = some c)
    (path : List String) (v : Val) (d : DVal) (st : St) :
    (primBody env m p path v d st).2.sink = st.sink :=
  (primBody_clean_iff env m p path v d st).mpr (.inl (by rw [hc]; rfl))

/-- the value a catching node ends up with, case by case -/
theorem catch_dest (env : Env) (m : Mode) (p : Prim) (c : DVal) (hc : p.ctch = some c)
    (path : List String) (v : Val) (d : DVal) (st : St) :
    (primBody env m p path v d st).1 =
      if Engine.primAbsent m v d then
        match p.dflt with
        | some x => if p.tests.all (fun t => t.pred x) then x else c   -- default is tested like any value
        | none => if p.required.isSome then c else d                    -- required ⇒ c ; optional ⇒ untouched
      else
        match m with
        | .validate => if p.tests.all (fun t => t.pred d) then d else c
        | .parse =>
          match p.coerce v with
          | none => c
          | some x => if p.tests.all (fun t => t.pred x) then x else c
    := by
  unfold primBody
  rw [hc]
  cases Engine.primAbsent m v d
  · cases m
    · cases p.coerce v
      · rfl
      · exact testCatch_dest ..
    · exact testCatch_dest ..
  · cases p.dflt
    · cases p.required <;> rfl
    · exact testCatch_dest ..

/-- Parse: a present input that coerces and passes every test is placed, not `c` -/
theorem catch_keeps_good_value (env : Env) (p : Prim) (c x : DVal) (hc : p.ctch = some c)
    (path : List String) (v : Val) (d : DVal) (st : St)
    (hpresent : Engine.primAbsent .parse v d = false) (hco : p.coerce v = some x)
    (hall : p.tests.all (fun t => t.pred x) = true) :
    (primBody env .parse p path v d st).1 = x := by
  rw [catch_dest env .parse p c hc]; simp [hpresent, hco, hall]

/-- Congruence of the reference semantics: in every one-hole context — struct field, slice element,
    behind pointers or a Preprocess, at any depth, next to any siblings — `SpecEquiv` nodes give the
    same run. A catching node and its non-catching counterpart are not `SpecEquiv`: they differ on a
    failing input. -/
theorem catch_confined_spec (env : Env) (m : Mode) (s₁ s₂ : Schema) (h : SpecEquiv env m s₁ s₂) (c : Ctx)
    (tag : Option String) (v : Val) (d : DVal) :
    Spec.run env m (c.fill s₁) tag v d = Spec.run env m (c.fill s₂) tag v d :=
  (fill_congr env m s₁ s₂ h c).2 tag [] v d {}

/-- The same for the mechanism model under the regenerated facts, any visit order: `SpecEquiv`
    fillers (a condition on `Spec.proc` alone) give the same engine run — destination, issues,
    callback log. -/
theorem catch_confined (env : Env) (m : Mode) (s₁ s₂ : Schema) (h : SpecEquiv env m s₁ s₂) (c : Ctx)
    (tag : Option String) (v : Val) (d : DVal) :
    Engine.run env Gen.facts m (c.fill s₁) tag v d = Engine.run env Gen.facts m (c.fill s₂) tag v d := by
  rw [engine_is_spec, engine_is_spec]; exact catch_confined_spec env m s₁ s₂ h c tag v d

/-- a catching primitive without PostTransforms, alone in the engine, reports no issue -/
theorem engine_catch_no_issue (env : Env) (m : Mode) (p : Prim) (c : DVal) (hc : p.ctch = some c)
    (hp : p.posts = []) (tag : Option String) (v : Val) (d : DVal) :
    (Engine.run env Gen.facts m (.prim p) tag v d).2.sink = [] := by
  rw [engine_is_spec, Spec.run, proc_prim, prim, hp, runPosts_nil]
  exact catch_no_issue env m p c hc [] v d {}

def intGT5Catch99 : Prim :=
  { kind := .num .int, ctch := some (.int .int 99), coerce := fun v => match v with | .int _ n => some (.int .int n) | _ => none,
    tests := [{ id := 1, code := "gt", pred := fun d => match d with | .int _ n => decide (n > 5) | _ => false }] }

def env0 : Env := { fmt := fun _ _ _ => "m", ω := fun _ => [] }

def coerceSliceId : Val → Option (List Val) := fun v => match v with | .list xs => some xs | _ => none

/-- a catching element failing next to two that pass: `[1,10,20]` ↦ `[99 10 20]` under the
    regenerated facts (`[99 99 99]` with `sliceParseResetExit := false`) -/
example : (Engine.run env0 Gen.facts .parse
    (.slice (.prim intGT5Catch99) { coerce := coerceSliceId, zeroElem := .int .int 0 }) none
    (.list [.int .int 1, .int .int 10, .int .int 20]) (.slice [])).1
    = .slice [.int .int 99, .int .int 10, .int .int 20] := by
  rfl

-- `SpecEquiv` is inhabited (reflexively)
example : SpecEquiv env0 .parse (.prim intGT5Catch99) (.prim intGT5Catch99) := ⟨rfl, fun _ _ _ _ _ => rfl⟩

/-- catch state does not travel in recycled contexts: both constructors taking a node context from
    the pool assign every live field of `SchemaCtx`, `CanCatch` and `Exit` included (two conjuncts
    of `C07.constructors_complete`) -/
theorem recycled_context_has_no_catch_state :
    C07.coversAll "NewSchemaCtx" "SchemaCtx" = true ∧ C07.coversAll "NewValidateSchemaCtx" "SchemaCtx" = true :=
  have ⟨_, _, _, _, _, _, h1, h2, _⟩ := C07.constructors_complete
  ⟨h1, h2⟩

end Zog.Props.C05
