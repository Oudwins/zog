import Zog.Atoi
import Zog.CoerceLaws

/-!
# C18 — numeric coercion never silently changes a number
The numeric coercers of `Zog.Coerce` against exact arithmetic on `Int` / dyadic values; `strconv.ParseFloat` is
external (`ext.parseFloat`).
-/

namespace Zog.Props.C18
open Zog

/-- integers of the accepted Go kinds pass through unchanged -/
theorem int_identity (n : Int) :
    coerceInt (.int .int n) = some n ∧ coerceInt (.int .i64 n) = some n ∧ coerceInt (.int .i32 n) = some n :=
  ⟨rfl, rfl, rfl⟩

/-- `strconv.Atoi`: an accepted string denotes a number in the 64-bit range (no wrap) -/
theorem atoi_in_range (s : String) (n : Int) (h : atoi s = some n) : minInt64 ≤ n ∧ n ≤ maxInt64 := by
  unfold atoi at h
  split at h <;> exact atoiBody_in_range _ _ _ h

/-- NaN and ±Inf never become integers -/
theorem nan_inf_rejected :
    coerceInt (.f64 .nan) = none ∧ coerceInt (.f64 (.inf false)) = none ∧ coerceInt (.f64 (.inf true)) = none :=
  ⟨rfl, rfl, rfl⟩

/-- a float accepted as an integer yields exactly `trunc(x)`, in the 64-bit range: never wrapped or saturated -/
theorem float_to_int_exact (f : FVal) (n : Int) (h : coerceInt (.f64 f) = some n) :
    f.trunc? = some n ∧ minInt64 ≤ n ∧ n ≤ maxInt64 := by
  rw [coerceInt_f64] at h
  obtain ⟨hg, ht⟩ := Option.ite_none_left_eq_some.mp h
  obtain ⟨h1, h2⟩ := Bool.or_eq_false_iff.mp (Bool.eq_false_iff.mpr hg)
  exact ⟨ht, trunc_in_range f n ht h1 h2⟩

/-- Int32: the result is in the int32 range (no `int32(n)` wrap) -/
theorem int32_in_range (ext : Ext) (v : Val) (k : NKind) (n : Int) (h : coerceNum ext .i32 v = some (.int k n)) :
    minInt32 ≤ n ∧ n ≤ maxInt32 :=
  ((coerceNum_i32 ext v k n).mp h).2.2

theorem int32_same_number (ext : Ext) (v : Val) (k : NKind) (n : Int) (h : coerceNum ext .i32 v = some (.int k n)) :
    coerceInt v = some n :=
  ((coerceNum_i32 ext v k n).mp h).2.1

/-- Float32: `float32(x)` of what the Float64 coercer produced; a finite number is never turned into ±Inf -/
theorem float32_no_overflow (ext : Ext) (v : Val) (k : NKind) (y x : FVal)
    (hx : coerceF64 ext v = some x) (h : coerceNum ext .f32 v = some (.flt k y)) :
    y = toF32 x ∧ (y.isInf = true → x.isInf = true) := by
  simp only [coerceNum, hx, Option.bind_some] at h
  obtain ⟨hr, hv⟩ := Option.ite_none_left_eq_some.mp h
  cases hv
  exact ⟨rfl, fun hy => by simpa [hy] using hr⟩

/-- the examples named by the property -/
theorem named_examples (ext : Ext) :
    coerceNum ext .i32 (.str "3000000000") = none ∧
    coerceNum ext .i32 (.f64 (.fin 3000000000 0)) = none ∧
    coerceNum ext .int (.f64 (.fin 10000000000000000000 0)) = none ∧
    coerceNum ext .i64 (.f64 (.fin (-10000000000000000000) 0)) = none ∧
    coerceNum ext .int (.f64 .nan) = none ∧ coerceNum ext .i64 (.f64 (.inf false)) = none ∧
    coerceNum ext .int (.f64 (.fin 5 (-1))) = some (.int .int 2) ∧
    coerceNum ext .int (.f64 (.fin (-5) (-1))) = some (.int .int (-2)) ∧
    coerceNum ext .i32 (.str "2147483647") = some (.int .i32 2147483647) := by
  refine ⟨?_, by rfl, by rfl, by rfl, rfl, rfl, by rfl, by rfl, ?_⟩
  · rw [coerceNum_i32_eq, coerceInt, atoi_ofList]
    decide +kernel
  · exact (coerceNum_i32 ext _ _ _).mpr ⟨rfl, by rw [coerceInt, atoi_ofList]; decide +kernel, by decide +kernel⟩

end Zog.Props.C18
