import Zog.Props.FactsOK

/-!
# C04 — Required, Optional and Default decide what an absent value means
"Absent" is `isParseZero` (Parse) / `isZeroD` (Validate) of Zog/Zero.lean, mirroring
internals/zeroValues.go. Default > Required > Optional is read off the node equations of the
reference semantics, one table row per theorem.
-/

namespace Zog.Props.C04
open Zog Spec

/-- Parse: absent iff nil (a missing key reads as nil: `missing_key_nil`) or a string empty after
    trimming whitespace -/
theorem parse_absent_iff (v : Val) :
    isParseZero v = true ↔ v = .nil ∨ ∃ s, v = .str s ∧ isBlank s = true := by
  constructor
  · intro h
    cases v with
    | nil => exact .inl rfl
    | str s => exact .inr ⟨s, rfl, h⟩
    | _ => cases h
  · rintro (rfl | ⟨s, rfl, h⟩)
    · rfl
    · exact h

/-- 0, false, 0.0, the zero time and the empty list are present in Parse -/
theorem parse_falsy_present (k : IKind) (u : Bool) :
    isParseZero (.int k 0) = false ∧ isParseZero (.bool false) = false ∧
    isParseZero (.f64 (.fin 0 0)) = false ∧ isParseZero (.time zeroTimeNs u) = false ∧
    isParseZero (.list []) = false := ⟨rfl, rfl, rfl, rfl, rfl⟩

/-- blank iff every character is in `unicode.IsSpace` -/
theorem blank_iff (s : String) : isBlank s = true ↔ ∀ c ∈ s.toList, isGoSpace c = true :=
  List.all_eq_true

theorem missing_key_nil (kvs : List (String × Val)) (k : String) (h : lookupD kvs k = none) :
    (Engine.Prov.map kvs).get k = .nil ∧ Engine.Prov.empty.get k = .nil := by
  simp [Engine.Prov.get, h]

/-- Validate: instances of Go's zero-value test `isZeroD`; the empty slice, the nil pointer and -0.0
    are absent -/
theorem validate_absent_table (k : NKind) :
    isZeroD (.str "") = true ∧ isZeroD (.int k 0) = true ∧ isZeroD (.bool false) = true ∧
    isZeroD (.flt k (.fin 0 0)) = true ∧ isZeroD (.time zeroTimeNs true) = true ∧
    isZeroD (.slice []) = true ∧ isZeroD (.ptr none) = true ∧
    isZeroD (.int k 1) = false ∧ isZeroD (.bool true) = false ∧ isZeroD (.str "a") = false ∧
    isZeroD (.flt k .nzero) = true := by
  refine ⟨rfl, rfl, rfl, rfl, by decide, rfl, rfl, rfl, rfl, by decide, rfl⟩

/-- absent + Default: the default is used and tested like any other value, Required or not -/
theorem absent_default (env : Env) (m : Mode) (p : Prim) (x : DVal) (path : List String) (v : Val) (d : DVal) (st : St)
    (habs : Engine.primAbsent m v d = true) (hd : p.dflt = some x) :
    primBody env m p path v d st = tested env p.kind.dtype (render path) p.ctch p.tests x st := by
  unfold primBody; rw [if_pos habs, hd]

/-- absent + no Default + Required (no Catch): one issue, that of the Required test; no test runs,
    the destination is not written -/
theorem absent_required (env : Env) (m : Mode) (p : Prim) (r : Test) (path : List String) (v : Val) (d : DVal) (st : St)
    (habs : Engine.primAbsent m v d = true) (hd : p.dflt = none) (hr : p.required = some r) (hc : p.ctch = none) :
    primBody env m p path v d st = (d, emit st (issueOfTest env (render path) p.kind.dtype r)) := by
  unfold primBody; rw [if_pos habs, hd, hr, hc]

/-- absent + no Default + Optional: skipped — no issue, no test event, destination untouched -/
theorem absent_optional (env : Env) (m : Mode) (p : Prim) (path : List String) (v : Val) (d : DVal) (st : St)
    (habs : Engine.primAbsent m v d = true) (hd : p.dflt = none) (hr : p.required = none) :
    primBody env m p path v d st = (d, st) := by
  unfold primBody; rw [if_pos habs, hd, hr]

/-- slices, Parse: absent + no Default + Required ⇒ one issue, no element visited, destination
    untouched -/
theorem slice_absent_required (env : Env) (elem : Schema) (sm : SliceMods) (r : Test) (path : List String) (v : Val) (d : DVal) (st : St)
    (habs : isParseZero v = true) (hd : sm.dfltIn = none) (hr : sm.required = some r) (hp : sm.posts = []) :
    proc env .parse (.slice elem sm) none path v d st = (d, emit st (issueOfTest env (render path) "slice" r)) := by
  simp [proc_slice_eq, sliceBody_eq, sliceSrc, sliceFail, habs, hd, hr, hp, runPosts_nil]

/-- slices, Parse: absent + no Default + Optional ⇒ skipped -/
theorem slice_absent_optional (env : Env) (elem : Schema) (sm : SliceMods) (path : List String) (v : Val) (d : DVal) (st : St)
    (habs : isParseZero v = true) (hd : sm.dfltIn = none) (hr : sm.required = none) (hp : sm.posts = []) :
    proc env .parse (.slice elem sm) none path v d st = (d, st) := by
  simp [proc_slice_eq, sliceBody_eq, sliceSrc, habs, hd, hr, hp, runPosts_nil]

/-- slices, Validate: an empty slice (the model has one value for nil and empty) is absent -/
theorem slice_validate_empty_required (env : Env) (elem : Schema) (sm : SliceMods) (r : Test) (path : List String) (st : St)
    (hd : sm.dfltD = none) (hr : sm.required = some r) (hp : sm.posts = []) :
    proc env .validate (.slice elem sm) none path .nil (.slice []) st =
      (.slice [], emit st (issueOfTest env (render path) "slice" r)) := by
  simp [proc_slice_eq, sliceBody_eq, sliceSrc, sliceFail, DVal.elems, hd, hr, hp, runPosts_nil]

/-- pointers: absent + NotNil ⇒ one issue, that of the NotNil test with the pointed-to schema's
    dtype; destination untouched, inner schema not run -/
theorem ptr_absent_notnil (env : Env) (m : Mode) (elem : Schema) (zp : DVal) (t : Test) (tag : Option String)
    (path : List String) (v : Val) (d : DVal) (st : St) (habs : Engine.ptrAbsent m v d = true) :
    proc env m (.ptr elem zp (some t)) tag path v d st = (d, emit st (issueOfTest env (render path) elem.dtype t)) := by
  rw [proc_ptr, if_pos habs]

/-- pointers: absent + optional ⇒ nothing happens -/
theorem ptr_absent_optional (env : Env) (m : Mode) (elem : Schema) (zp : DVal) (tag : Option String)
    (path : List String) (v : Val) (d : DVal) (st : St) (habs : Engine.ptrAbsent m v d = true) :
    proc env m (.ptr elem zp none) tag path v d st = (d, st) := by
  rw [proc_ptr, if_pos habs]

/-- a present pointer input allocates -/
theorem ptr_present_allocates (env : Env) (m : Mode) (elem : Schema) (zp : DVal) (nn : Option Test) (tag : Option String)
    (path : List String) (v : Val) (d : DVal) (st : St) (hpres : Engine.ptrAbsent m v d = false) :
    ∃ x, (proc env m (.ptr elem zp nn) tag path v d st).1 = .ptr (some x) := by
  simp [proc_ptr, hpres]

/-- `engine_is_spec` restated -/
theorem at_every_depth (env : Env) (m : Mode) (s : Schema) (tag : Option String) (v : Val) (d : DVal) :
    Engine.run env Gen.facts m s tag v d = Spec.run env m s tag v d := engine_is_spec env m s tag v d

/-- in Validate a Slice node installs its Default through a deep copy, equal to it part by part
    (pointees, struct fields, map values, what interface fields hold). A regenerated behavioural fact
    (`extract` runs `SliceSchema.validate` on several default shapes), not about the model, which
    takes the copy to be the value. -/
theorem validated_default_is_the_default : Gen.sliceDefaultDeep = true := by decide

end Zog.Props.C04
