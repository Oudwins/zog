import Zog.IssueMap
import Zog.Issues
import Zog.Props.FactsOK
import Zog.Props.C15
import Zog.HttpLaws

/-!
# C10 — the issue map is well-formed and addresses every issue by its path
The map is `toIssueMap` (Zog/Path.lean: `ErrsMap.Add` folded over the issues in arrival order),
well-formed for every issue sequence. Paths are `render` (`PathBuilder.String`), keys
`Engine.keyFor` (`GetKeyFromField`); where an execution files its issues comes from `Spec.proc_at`
(Zog/Issues.lean).
-/

namespace Zog.Props.C10
open Zog

theorem get_append (m : IssueMap) (k k' : String) (i : Issue) :
    (IssueMap.append m k i).get k' = m.get k' ++ if k == k' then [i] else [] := by
  induction m with
  | nil => exact (List.nil_append _).symm
  | cons p rest ih =>
    rw [IssueMap.append]
    by_cases hp : (p.1 == k) = true
    · rw [if_pos hp, IssueMap.get, IssueMap.get]
      cases beq_iff_eq.mp hp
      cases p.1 == k'
      · exact (List.append_nil _).symm
      · rfl
    · rw [if_neg hp, IssueMap.get, IssueMap.get]
      cases hk : p.1 == k'
      · exact ih
      · rw [if_neg fun e => hp (beq_iff_eq.mpr ((beq_iff_eq.mp hk).trans (beq_iff_eq.mp e).symm))]
        exact (List.append_nil _).symm

def filed (is : List Issue) (k : String) : List Issue := is.filter (fun i => keyOf i.path == k)

/-- `ErrsMap.Add` on a non-empty map appends to the entry for the issue's key -/
theorem inv_add (m : IssueMap) (i : Issue) (h : m ≠ []) (k : String) :
    (IssueMap.add m i).get k = m.get k ++ filed [i] k := by
  cases m with
  | nil => exact absurd rfl h
  | cons p rest =>
    rw [filed, List.filter_cons, List.filter_nil]
    exact get_append ..

theorem inv_foldl (is : List Issue) (m : IssueMap) (h : m ≠ []) (k : String) :
    (is.foldl IssueMap.add m).get k = m.get k ++ filed is k := by
  induction is generalizing m with
  | nil => exact (List.append_nil _).symm
  | cons i rest ih =>
    rw [List.foldl_cons, ih _ (IssueMap.add_ne_nil m i), inv_add m i h, List.append_assoc, filed, filed, filed,
      ← List.filter_append]
    rfl

theorem get_toIssueMap (is : List Issue) (k : String) :
    (toIssueMap is).get k = (if firstKey == k then is.take 1 else []) ++ filed is k := by
  cases is with
  | nil => split <;> rfl
  | cons i rest =>
    rw [toIssueMap_cons]
    exact inv_foldl _ _ (List.cons_ne_nil _ _) k

/-- **Well-formedness for every issue sequence** (none addressed to the reserved key `$first`):
    every key other than `$first` holds exactly the issues whose path has that key (`""` is keyed
    `$root`) in arrival order, `$first` holds the first issue recorded, and the map is nil iff there
    is no issue. -/
theorem issue_map_well_formed (is : List Issue) (hk : ∀ i ∈ is, keyOf i.path ≠ firstKey) :
    (∀ k, k ≠ firstKey → (toIssueMap is).get k = filed is k) ∧
    (∀ i rest, is = i :: rest → (toIssueMap is).get firstKey = [i]) ∧
    (toIssueMap is = [] ↔ is = []) := by
  refine ⟨fun k hk' => ?_, fun i rest e => ?_, ?_⟩
  · rw [get_toIssueMap, if_neg (mt beq_iff_eq.mp (Ne.symm hk'))]
    rfl
  · have : filed is firstKey = [] := List.filter_eq_nil_iff.mpr fun j hj => mt beq_iff_eq.mp (hk j hj)
    rw [get_toIssueMap, this, e]
    rfl
  · exact toIssueMap_eq_nil is

/-- the empty path is filed under `$root` -/
theorem root_key : keyOf "" = rootKey ∧ rootKey = "$root" ∧ firstKey = "$first" := ⟨rfl, rfl, rfl⟩
theorem nonroot_key (p : String) (h : p ≠ "") : keyOf p = p := by simp [keyOf, h]

def sep (seg : String) : String := if startsWithBracket seg then seg else "." ++ seg

/-- the documented path grammar: keys joined by '.', slice positions `[i]` appended without a dot -/
def joinSpec : List String → String
  | [] => ""
  | s :: rest => s ++ String.join (rest.map sep)

theorem renderAux_nonempty (prev : String) (hp : prev ≠ "") (segs : List String) (h : ∀ s ∈ segs, s ≠ "") :
    renderAux prev segs = String.join (segs.map sep) := by
  induction segs generalizing prev with
  | nil => rfl
  | cons v rest ih =>
    have ⟨hv, hr⟩ := List.forall_mem_cons.mp h
    rw [renderAux, ih v hv hr, List.map_cons, String.join_cons, sep]
    by_cases hb : startsWithBracket v = true <;> simp [hp, hb, String.append_assoc]

/-- on non-empty segments `render` (`PathBuilder.String`) is the documented grammar -/
theorem render_is_joinSpec (segs : List String) (h : ∀ s ∈ segs, s ≠ "") : render segs = joinSpec segs := by
  cases segs with
  | nil => rfl
  | cons s rest =>
    have ⟨hs, hr⟩ := List.forall_mem_cons.mp h
    rw [render, renderAux, renderAux_nonempty s hs rest hr, joinSpec]
    simp

example : render ["users", "[3]", "name"] = "users[3].name" := by decide +kernel
example : render ["[0]"] = "[0]" := by decide +kernel
example : render [] = "" := rfl

/-- the source tag names the key: the part before its first comma (options such as `,omitempty` are
    not part of it) -/
theorem key_source_tag_first (t k key : String) (fm : FieldMeta) (h : lookupD fm.tags t = some k)
    (hn : Engine.tagName k ≠ "") :
    Engine.keyFor (some t) fm key = Engine.tagName k := by simp [Engine.keyFor, h, hn]

/-- a tag without options names the key as it stands -/
theorem tagName_plain (k : String) (h : ',' ∉ k.toList) : Engine.tagName k = k := by
  have hk : ∀ c ∈ k.toList, (c != ',') = true := fun c hc => bne_iff_ne.mpr fun e => h (e ▸ hc)
  rw [Engine.tagName, Http.takeWhile_eq_self hk, String.ofList_toList]

theorem tagName_no_comma (k : String) : ',' ∉ (Engine.tagName k).toList := fun h => by
  rw [Engine.tagName, String.toList_ofList] at h
  exact bne_iff_ne.mp (List.all_eq_true.mp (List.all_takeWhile (p := (· != ','))) _ h) rfl

theorem tagName_idem (k : String) : Engine.tagName (Engine.tagName k) = Engine.tagName k :=
  tagName_plain _ (tagName_no_comma k)

/-- a source tag that names nothing (`json:",omitempty"`, `json:""`) does not name the key -/
theorem key_source_tag_without_name (t k key : String) (fm : FieldMeta) (h : lookupD fm.tags t = some k)
    (hn : Engine.tagName k = "") :
    Engine.keyFor (some t) fm key = (lookupD fm.tags "zog").getD key := by simp [Engine.keyFor, h, hn]

example : Engine.tagName "name,omitempty" = "name" ∧ Engine.tagName ",omitempty" = "" ∧ Engine.tagName "j_name" = "j_name" := by
  -- on the character lists of the literals, as in `C15.tables_as_documented`
  unfold Engine.tagName
  iterate 3 rw [String.toList_ofList]
  decide +kernel

theorem key_zog_tag_next (t z key : String) (fm : FieldMeta) (h : lookupD fm.tags t = none) (hz : lookupD fm.tags "zog" = some z) :
    Engine.keyFor (some t) fm key = z := by simp [Engine.keyFor, h, hz]

theorem key_schema_key_last (t key : String) (fm : FieldMeta) (h : lookupD fm.tags t = none) (hz : lookupD fm.tags "zog" = none) :
    Engine.keyFor (some t) fm key = key := by simp [Engine.keyFor, h, hz]

/-- Validate (and a plain Go map): `zog` tag, else the schema key -/
theorem key_validate (key : String) (fm : FieldMeta) :
    Engine.keyFor none fm key = (lookupD fm.tags "zog").getD key := by simp [Engine.keyFor]

/-- a test's IssuePath overrides the path -/
theorem issue_path_override (env : Env) (ps dt : String) (t : Test) (p : String) (h : t.issuePath = some p) :
    (issueOfTest env ps dt t).path = p := by simp [issueOfTest, h]

/-- `SanitizeList` / `SanitizeMap` of utils.go: the messages, entry by entry, under the same keys in
    the same order -/
def sanitizeList (l : List Issue) : List String := l.map (·.message)
def sanitizeMap (m : IssueMap) : List (String × List String) := m.map (fun p => (p.1, sanitizeList p.2))

theorem sanitize_keys (m : IssueMap) : (sanitizeMap m).map (·.1) = m.map (·.1) := by
  simp [sanitizeMap, List.map_map, Function.comp_def]

theorem sanitize_list_length (l : List Issue) : (sanitizeList l).length = l.length := by simp [sanitizeList]

theorem sanitize_get (l : List Issue) (n : Nat) (h : n < l.length) :
    (sanitizeList l)[n]'(by simpa [sanitizeList] using h) = (l[n]).message := by simp [sanitizeList]

/-- **Every issue of the result has a rendered path or a declared `IssuePath`** (mechanism model,
    regenerated facts), for schemas whose callbacks return ordinary errors (a ZogIssue returned by a
    PostTransform keeps the path its author gave it). Every string `p` is `render [p]`, so at the
    root the first disjunct excludes nothing: what locates an issue is `node_files_below_itself`,
    of which this is the root instance. -/
theorem issues_addressed_at_every_depth (env : Env) (m : Mode) (s : Schema) (hpl : Spec.PlainCallbacks s)
    (tag : Option String) (v : Val) (d : DVal) :
    ∀ i ∈ (Engine.run env Gen.facts m s tag v d).2.sink,
      (∃ chain : List String, i.path = render chain) ∨ i.path ∈ Spec.overrides s := by
  rw [engine_is_spec]
  exact Spec.run_issue_paths env m s hpl tag v d

/-- a node run at path `p` only appends issues, each at the rendering of `p` extended by some
    segments or at an `IssuePath` declared on one of its tests -/
theorem node_files_below_itself (env : Env) (m : Mode) (s : Schema) (hpl : Spec.PlainCallbacks s)
    (tag : Option String) (path : List String) (v : Val) (d : DVal) (st : St) :
    ∃ extra, (Spec.proc env m s tag path v d st).2.sink = st.sink ++ extra ∧
      ∀ i ∈ extra, (∃ suffix : List String, i.path = render (path ++ suffix)) ∨ i.path ∈ Spec.overrides s :=
  Spec.proc_at env m (Spec.overrides s) s hpl (fun _ h => h) tag path v d st

/-- `C15.tables_as_documented` restated: a request's issues are keyed by the tag of the documented
    source, `query` for GET and HEAD, `json` / `form` by media type -/
theorem request_source_as_documented :
    Gen.httpMethods = [("GET".toList, .query), ("HEAD".toList, .query)] ∧
    Gen.httpTypes = [("application/json".toList, .json), ("application/x-www-form-urlencoded".toList, .form)] ∧
    Gen.httpDefault = .query ∧ Gen.httpCutSep = [';'] ∧ Gen.httpUniform = true := C15.tables_as_documented

end Zog.Props.C10
