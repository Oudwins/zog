import Zog.Props.FactsOK
import Zog.Exact

/-!
# C01 — success means valid: no issues implies every declared constraint holds
`Spec.Valid` and `Spec.ValidU` (Zog/Exact.lean) state, node by node at every depth, what a successful
execution must have established, in terms of declared tests and values only: no flag, no issue.
-/

namespace Zog.Props.C01
open Zog Spec

/-- C01, reference semantics, PostTransform-free schemas whose struct fields have distinct keys and
    Go fields (`WF`), any field visit order. If the run reports no issue then (`Valid`) at every
    node reached — through structs, slices and non-nil pointers — every declared test holds on the
    value placed or found in the destination and every Required / NotNil node had a present value
    (or a Default); exempt are only an absent optional node and a node holding its Catch value. -/
theorem success_means_valid_spec (env : Env) (m : Mode) (s : Schema) (hp : s.postFree = true) (hw : s.WF)
    (tag : Option String) (v : Val) (d : DVal) (h : (Spec.run env m s tag v d).2.sink = []) :
    Valid env m s tag [] v d :=
  valid_of_clean env m s hp hw tag [] v d h

/-- C01, mechanism model under the regenerated facts: the same for the engine, which keeps
    `CanCatch`/`Exit` on the child context siblings share — a sibling field or an earlier slice
    element skips no constraint. -/
theorem success_means_valid (env : Env) (m : Mode) (s : Schema) (hp : s.postFree = true) (hw : s.WF)
    (tag : Option String) (v : Val) (d : DVal) (h : (Engine.run env Gen.facts m s tag v d).2.sink = []) :
    Valid env m s tag [] v d := by
  rw [engine_is_spec] at h
  exact success_means_valid_spec env m s hp hw tag v d h

/-- **C01 for every well-formed schema, PostTransforms included** (mechanism model, regenerated
    facts). As above, except that each declared test held on the value its node had when the tests
    ran (`ValidU`: a node's own PostTransforms run after its tests and may rewrite the value; its
    children's have already run). The idea: on a run that ends clean no PostTransform gate is ever
    closed (`Spec.cleanU_iff`, Zog/Exact.lean). -/
theorem success_means_valid_all (env : Env) (m : Mode) (s : Schema) (hw : s.WF)
    (tag : Option String) (v : Val) (d : DVal) (h : (Engine.run env Gen.facts m s tag v d).2.sink = []) :
    ValidU env m s tag [] v d := by
  rw [engine_is_spec] at h
  exact validU_of_clean env m s hw tag [] v d h

/-- `ValidU` at a primitive node: `PrimSat` of the value `primBody` returns, i.e. the node's value
    before its PostTransforms run -/
theorem validU_at_prim (env : Env) (m : Mode) (p : Prim) (tag : Option String) (path : List String) (v : Val) (d : DVal) :
    ValidU env m (.prim p) tag path v d ↔ PrimSat m p v d (primBody env m p path v d {}).1 :=
  Iff.rfl

/-- One primitive node, any state: if `primBody` (the pipeline up to the PostTransforms) added no
    issue then (`PrimSat`) the node was absent and optional, or holds its Catch value, or was
    present (or had a Default) and passes every declared test. -/
theorem prim_no_issue_sat (env : Env) (m : Mode) (p : Prim) (path : List String) (v : Val) (d : DVal) (st : St)
    (h : (primBody env m p path v d st).2.sink = st.sink) :
    PrimSat m p v d (primBody env m p path v d st).1 :=
  primBody_sat env m p path v d st h

/-- struct- and slice-level tests: if none was reported, all of them hold on the node's value -/
theorem complex_tests_hold (env : Env) (dt ps : String) (tests : List Test) (x : DVal) (st : St)
    (h : (testAll env dt ps tests x st).sink = st.sink) : tests.all (fun t => t.pred x) = true :=
  (testAll_clean_iff env dt ps tests x st).mp h

/-- Issues are only ever appended, so a sink that ends where it started never grew in between. -/
theorem success_means_every_visit_clean (env : Env) (m : Mode) (s : Schema) (tag : Option String)
    (path : List String) (v : Val) (d : DVal) (st mid : St)
    (h1 : Extends st mid) (h2 : Extends mid (proc env m s tag path v d mid).2)
    (h : (proc env m s tag path v d mid).2.sink = st.sink) : mid.sink = st.sink :=
  Extends.squeeze h1 h2 h

theorem visits_only_append (env : Env) (m : Mode) (s : Schema) (tag : Option String) (path : List String)
    (v : Val) (d : DVal) (st : St) : Extends st (proc env m s tag path v d st).2 :=
  proc_extends env m s tag path v d st

theorem engine_success_iff (env : Env) (m : Mode) (s : Schema) (tag : Option String) (v : Val) (d : DVal) :
    (Engine.run env Gen.facts m s tag v d).2.sink = [] ↔ (Spec.run env m s tag v d).2.sink = [] := by
  rw [engine_is_spec]

-- non-vacuity: the absent-and-optional disjunct of `PrimSat` is inhabited
example : PrimSat .parse { kind := .num .int, coerce := fun _ => none } .nil (.int .int 0) (.int .int 0) :=
  Or.inl ⟨rfl, rfl, rfl, rfl⟩

-- non-vacuity: a struct schema and an input meeting `hp` and `h` of `success_means_valid_spec`
def intCoerce (v : Val) : Option DVal :=
  match v with
  | .int _ n => some (.int .int n)
  | _ => none
def gt5 (d : DVal) : Bool :=
  match d with
  | .int _ n => decide (n > 5)
  | _ => false
def okField : Prim := { kind := .num .int, coerce := intCoerce, tests := [{ id := 1, code := "gt", pred := gt5 }] }
def okSchema : Schema := .struct (.cons "n" ⟨"N", []⟩ (.prim okField) .nil) [] []
def okEnv : Env := { fmt := fun _ _ _ => "m", ω := fun _ => [] }
example : (Spec.run okEnv .parse okSchema none (.obj [("n", .int .int 7)]) (.struct [("N", .int .int 0)])).2.sink = [] := by decide +kernel
example : okSchema.postFree = true := by decide

end Zog.Props.C01
