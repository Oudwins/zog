import Zog.Gen.Facts
import Zog.HttpLaws

/-!
# C15 — zhttp picks the documented source and reports undecodable requests as one issue
Source selection is `Http.dispatch` over two tables regenerated from the `switch` statements of `zhttp.Request`.
-/

namespace Zog.Props.C15
open Zog Http

/-- `zhttp.Request`'s choice of source -/
def dispatchNow (method ct : List Char) : Source := dispatch Gen.httpMethods Gen.httpTypes method ct

/-- the regenerated tables are the documented ones; every probed method without an entry dispatches alike
    (`httpUniform`) -/
theorem tables_as_documented :
    Gen.httpMethods = [("GET".toList, .query), ("HEAD".toList, .query)] ∧
    Gen.httpTypes = [("application/json".toList, .json), ("application/x-www-form-urlencoded".toList, .form)] ∧
    Gen.httpDefault = .query ∧ Gen.httpCutSep = [';'] ∧ Gen.httpUniform = true := by
  -- a string literal unifies with `String.ofList` of its characters: one rewrite per literal spares
  -- the kernel the UTF-8 decoder of `"…".toList`
  iterate 4 rw [String.toList_ofList]
  exact ⟨rfl, rfl, rfl, rfl, rfl⟩

/-- GET and HEAD read the query string whatever the Content-Type says -/
theorem get_head_read_query (ct : List Char) :
    dispatchNow "GET".toList ct = .query ∧ dispatchNow "HEAD".toList ct = .query := by
  iterate 2 rw [String.toList_ofList]
  exact ⟨rfl, rfl⟩

/-- **Parameters such as charset are ignored**: the source is the one chosen for the bare media type -/
theorem params_ignored (method mt p : List Char) (h : ∀ c ∈ mt, c ≠ ';') :
    dispatchNow method (mt ++ ';' :: p) = dispatchNow method mt :=
  dispatch_params_ignored _ _ method mt p h

/-- a method not in the method table chooses by media type -/
theorem body_methods_by_media_type (method : List Char) (hm : lookupC Gen.httpMethods method = none) :
    dispatchNow method "application/json".toList = .json ∧
    dispatchNow method "application/x-www-form-urlencoded".toList = .form ∧
    dispatchNow method "text/plain".toList = .query ∧ dispatchNow method [] = .query ∧
    dispatchNow method "application/json; charset=utf-8".toList = .json := by
  simp only [dispatchNow, dispatch_of_no_method _ _ method _ hm]
  iterate 4 rw [String.toList_ofList]
  decide +kernel

-- POST, DELETE, PUT, PATCH are such methods
example : lookupC Gen.httpMethods "POST".toList = none ∧ lookupC Gen.httpMethods "DELETE".toList = none ∧
    lookupC Gen.httpMethods "PUT".toList = none ∧ lookupC Gen.httpMethods "PATCH".toList = none := by
  iterate 4 rw [String.toList_ofList]
  decide +kernel

/-! `urlDataProvider.Get` (`Http.urlGet`) over `url.Values`: list, scalar or absent. -/

theorem repeated_is_list (data : List (String × List String)) (key : String) (vs : List String)
    (hk : (key.length > 2 && key.endsWith "[]") = false) (h : lookupD data key = some vs) (h2 : vs.length > 1) :
    urlGet data key = .list (vs.map Val.str) := by
  simp [urlGet, hk, h, h2]

theorem single_is_string (data : List (String × List String)) (key v : String)
    (hk : (key.length > 2 && key.endsWith "[]") = false) (h : lookupD data key = some [v]) :
    urlGet data key = .str v := by
  simp [urlGet, hk, h]

theorem bracket_suffix_is_list (data : List (String × List String)) (key : String) (vs : List String)
    (hk : (key.length > 2 && key.endsWith "[]") = true) (h : lookupD data key = some vs) :
    urlGet data key = .list (vs.map Val.str) := by
  simp [urlGet, hk, h]

/-- a missing parameter is absent, also when named with a `[]` suffix -/
theorem missing_is_absent (data : List (String × List String)) (key : String) (h : lookupD data key = none) :
    isParseZero (urlGet data key) = true := by
  unfold urlGet
  split <;> simp [h, isParseZero, isBlank]

/-- what `struct.process` does with the result of the data-provider factory -/
def afterDecode (env : Env) (decoded : Except String Val) (run : Val → DVal × St) (d : DVal) : DVal × St :=
  match decoded with
  | .error code => (d, { sink := [{ code := code, path := "", dtype := "struct", params := [], message := env.fmt code "struct" [] }], log := [] })
  | .ok v => run v

/-- the error branch of `afterDecode`: one top-level issue with the decoder's code; the schema does not run
    (empty log), the destination is untouched -/
theorem decode_failure_contract (env : Env) (code : String) (run : Val → DVal × St) (d : DVal) :
    let r := afterDecode env (.error code) run d
    r.1 = d ∧ r.2.log = [] ∧ r.2.sink.length = 1 ∧ (r.2.sink.map (·.code)) = [code] ∧ (r.2.sink.map (·.path)) = [""] :=
  ⟨rfl, rfl, rfl, rfl, rfl⟩

/-- an empty object gives the empty provider: every key reads absent -/
theorem empty_object_all_absent (k : String) :
    Engine.provOf (.obj []) = some .empty ∧ isParseZero (Engine.Prov.empty.get k) = true := ⟨rfl, rfl⟩

end Zog.Props.C15
