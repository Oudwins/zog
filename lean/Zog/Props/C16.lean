import Zog.HelpersSim
import Zog.Props.FactsOK

/-!
# C16 — Pick, Omit, Extend and Merge build independent schemas with set semantics
Programs over Struct / Test / Pick / Omit / Extend / Merge run on two machines (`Zog/Helpers.lean`): `Heap`,
with Go slice headers for the tests, and `Pure`, where a schema is a value. Independence is the refinement
between them plus a frame property of `Pure`.
-/

namespace Zog.Props.C16
open Zog Helpers

/-- regenerated fact: `cloneShallow` copies the `tests` and `postTransforms` backing arrays -/
theorem clone_copies : Gen.cloneCopies = true := by decide

/-- go/ast fact over struct_helpers.go: the helpers never assign to a field or element of their receiver or of
    an operand (what deriving from a base schema while other goroutines execute it rests on) -/
theorem helpers_write_no_operand : Gen.helperOperandWrites = [] := by decide

/-- **Refinement**: for every program and every slice growth policy, every schema object of the heap machine
    (spare capacity, in-place `append`) is observed to be its value in the pure specification. -/
theorem heap_refines_pure (grow : Nat → Nat) (ops : List Op) :
    (Heap.run Gen.cloneCopies grow ops).abs = Pure.run ops := by
  rw [clone_copies]
  exact (run_sim grow ops Heap.init inv_init).2

/-- operands are never modified, and schemas derived from a common base never influence one another or the
    base: in `Pure` an operation changes at most the object it is applied to (`Test`), else adds an object -/
theorem pure_step_frame (s : Pure) (op : Op) (j : Nat) (hj : j < s.length)
    (hne : ∀ i t, op = .test i t → i ≠ j) : (Pure.step s op)[j]? = s[j]? := by
  cases op with
  | mk f => exact List.getElem?_append_left hj
  | test i t =>
    simp only [Pure.step]
    cases s[i]? with
    | none => rfl
    | some o => exact List.getElem?_set_ne (hne i t rfl)
  -- `Pure.step` on these three is the `match` of `getElem?_push?`, up to unfolding
  | pick i keys | omitKeys i keys | extend i f => exact getElem?_push? s j hj s[i]? _
  | merge a b =>
    simp only [Pure.step]
    cases s[a]? with
    | none => rfl
    | some x =>
      cases s[b]? with
      | none => rfl
      | some y => exact List.getElem?_append_left hj

/-- hence the same for the real layout with the copying clone -/
theorem heap_step_frame (grow : Nat → Nat) (h : Heap) (hi : Inv h) (op : Op) (j : Nat) (hj : j < h.objs.length)
    (hne : ∀ i t, op = .test i t → i ≠ j) : (h.step true grow op).abs[j]? = h.abs[j]? := by
  rw [(step_sim grow h hi op).2]
  exact pure_step_frame h.abs op j (by simpa [Heap.abs] using hj) hne

/-- Pick keeps the operand's entries whose key is listed, Omit those whose key is not -/
theorem pick_fields (fm : FieldMap) (keys : List String) (k : String) (v : Nat) :
    (k, v) ∈ fmPick fm keys ↔ (k, v) ∈ fm ∧ k ∈ keys := by simp [fmPick, List.mem_filter]

theorem omit_fields (fm : FieldMap) (keys : List String) (k : String) (v : Nat) :
    (k, v) ∈ fmOmit fm keys ↔ (k, v) ∈ fm ∧ k ∉ keys := by simp [fmOmit, List.mem_filter]

/-- Extend / Merge: the union, later operand wins on conflicts -/
theorem union_fields (a b : FieldMap) (k : String) (v : Nat) :
    (k, v) ∈ fmUnion a b ↔ (k, v) ∈ b ∨ ((k, v) ∈ a ∧ ∀ w, (k, w) ∉ b) := by
  simp only [fmUnion, List.mem_append, List.mem_filter, List.contains_eq_mem, List.mem_map, Bool.not_eq_eq_eq_not, Bool.not_true,
    decide_eq_false_iff_not, not_exists, not_and]
  rw [or_comm]
  exact or_congr_right (and_congr_right fun _ =>
    ⟨fun h w hw => h (k, w) hw rfl, fun h p hp e => h p.2 (e ▸ hp)⟩)

/-- Merge adds one object: the union of the fields, the struct-level tests concatenated in operand order -/
theorem merge_tests (s : Pure) (a b : Nat) (x y : PObj) (ha : s[a]? = some x) (hb : s[b]? = some y) :
    (Pure.step s (.merge a b)) = s ++ [⟨fmUnion x.fields y.fields, x.tests ++ y.tests⟩] := by
  simp [Pure.step, ha, hb]

/-- folding three operands from the left or from the right selects the same schema for every key (what
    `x.Merge(y, z)` in one call must agree with) -/
theorem union_assoc (a b c : FieldMap) (k : String) (v : Nat) :
    (k, v) ∈ fmUnion (fmUnion a b) c ↔ (k, v) ∈ fmUnion a (fmUnion b c) := by
  rw [fmUnion_assoc]

/-- a three-operand Merge as two steps from the left: fields united in that order, tests in operand order -/
theorem merge3_tests (s : Pure) (a b c : Nat) (x y z : PObj) (ha : s[a]? = some x) (hb : s[b]? = some y) (hc : s[c]? = some z)
    (hca : c < s.length) :
    (Pure.step (Pure.step s (.merge a b)) (.merge s.length c)) =
      s ++ [⟨fmUnion x.fields y.fields, x.tests ++ y.tests⟩, ⟨fmUnion (fmUnion x.fields y.fields) z.fields, x.tests ++ y.tests ++ z.tests⟩] := by
  rw [merge_tests s a b x y ha hb,
    merge_tests _ s.length c _ z List.getElem?_concat_length ((List.getElem?_append_left hca).trans hc)]
  exact List.append_assoc ..

/-! The defect behind this property (D14), reproduced by the heap machine when the clone shares. -/

def d14 : List Op := [.mk [("a", 0), ("b", 1)], .test 0 10, .test 0 11, .test 0 12,   -- base with spare capacity
  .pick 0 ["a"], .test 1 100,                                                        -- A := base.Pick(a).Test(tA)
  .pick 0 ["b"], .test 2 200]                                                        -- B := base.Pick(b).Test(tB)

def grow2 : Nat → Nat := fun n => n + 1   -- leaves spare cells, as Go's doubling does

/-- with a sharing clone, A ends up with B's test in place of its own -/
example : ((Heap.run false grow2 d14).abs[1]?).map (·.tests) = some [10, 11, 12, 200] := by decide
/-- with the copying clone A keeps its own test, as in `Pure` -/
example : ((Heap.run true grow2 d14).abs[1]?).map (·.tests) = some [10, 11, 12, 100] := by decide
example : ((Pure.run d14)[1]?).map (·.tests) = some [10, 11, 12, 100] := by decide

end Zog.Props.C16
