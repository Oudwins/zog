/-!
# Context values of an execution   — C12 ("Get returns exactly the values passed to this call")

`ExecCtx` objects are pooled. `NewExecCtx` takes one with whatever value map the previous execution
left in it; `WithCtxValue(k, v)` options call `Set` before the schema runs; callbacks call `Get`.
Whether the constructor resets the map is a regenerated fact (`Gen.ctorAssigns`, read in
`C12.exec_ctx_resets_values`).
Core-only.
-/

namespace Zog
namespace CtxVals

/-- the `m map[string]any` field: nil or a map (values are opaque strings here) -/
abbrev M := Option (List (String × String))

def get (m : M) (k : String) : Option String :=
  match m with
  | none => none
  | some l => (l.find? (fun kv => kv.1 == k)).map (·.2)

/-- `Set`: allocates the map if it is nil, then stores -/
def set (m : M) (k v : String) : M :=
  some ((k, v) :: (m.getD []).filter (fun kv => !(kv.1 == k)))

/-- `NewExecCtx` on a recycled object holding `dirt` -/
def newExecCtx (resetsM : Bool) (dirt : M) : M := if resetsM then none else dirt

/-- the context the callbacks of one execution see: constructor, then the options in order -/
def exec (resetsM : Bool) (dirt : M) (opts : List (String × String)) : M :=
  opts.foldl (fun m kv => set m kv.1 kv.2) (newExecCtx resetsM dirt)

/-- what THIS call passed for `k`: the last `WithCtxValue(k, ·)` among its options -/
def passed (opts : List (String × String)) (k : String) : Option String :=
  (opts.reverse.find? (fun kv => kv.1 == k)).map (·.2)

/-- a history of executions on ONE pooled object: each starts on what the previous one left -/
def history (resetsM : Bool) (dirt : M) : List (List (String × String)) → M
  | [] => dirt
  | opts :: rest => history resetsM (exec resetsM dirt opts) rest

theorem find_filter_ne (k k' : String) (hk : (k == k') = false) (l : List (String × String)) :
    (l.filter (fun kv => !(kv.1 == k))).find? (fun kv => kv.1 == k') = l.find? (fun kv => kv.1 == k') := by
  rw [List.find?_filter]
  congr 1
  funext kv
  cases h : kv.1 == k'
  · simp
  · rw [eq_of_beq h, Bool.beq_comm, hk]
    rfl

theorem get_set (m : M) (k v k' : String) :
    get (set m k v) k' = if k == k' then some v else get m k' := by
  unfold set get
  cases hk : (k == k') with
  | true => simp [hk]
  | false =>
    simp only [List.find?_cons, hk, Bool.false_eq_true, ↓reduceIte]
    rw [find_filter_ne k k' hk]
    cases m with
    | none => rfl
    | some l => rfl

theorem get_foldl (opts : List (String × String)) (m : M) (k : String) :
    get (opts.foldl (fun m kv => set m kv.1 kv.2) m) k = (passed opts k).or (get m k) := by
  -- from the last option to the first: the first of them with the key decides
  rw [passed, ← List.foldr_reverse]
  generalize opts.reverse = r
  induction r with
  | nil => rfl
  | cons o r ih =>
    rw [List.foldr_cons, get_set, ih, List.find?_cons]
    cases o.1 == k <;> rfl

/-- **Exactly the values passed to this call.** When the constructor resets the map, a callback's
    `Get(k)` is the last value this call passed for `k`, or nil — for every key, every option list,
    and whatever ANY earlier execution left in the pooled object. -/
theorem get_exactly_passed (dirt : M) (opts : List (String × String)) (k : String) :
    get (exec true dirt opts) k = passed opts k := by
  unfold exec newExecCtx
  rw [get_foldl]
  simp [get]

end CtxVals
end Zog
