import Zog.Preds

/-!
# Lemmas about the built-in test predicates
The `Bool`-valued string predicates of `Zog/Preds.lean` read as propositions about the character list
(`isInfixOfChars`, `inRanges`, `containsInRanges`), and `isUUID` / `isEmail` on a literal's characters.
-/

namespace Zog

theorem isInfixOfChars_spec (pat : List Char) : ∀ s : List Char, isInfixOfChars pat s = true ↔ pat <:+: s
  | [] => List.isEmpty_iff.trans List.infix_nil.symm
  | c :: cs => by
    show (pat.isPrefixOf (c :: cs) || isInfixOfChars pat cs) = true ↔ _
    rw [Bool.or_eq_true, List.isPrefixOf_iff_prefix, isInfixOfChars_spec pat cs, List.infix_cons_iff]

/-- `ContainsUpper` / `ContainsDigit` / `ContainsSpecial`: some character lies in some range of a rune table -/
theorem containsInRanges_spec (rs : List (Nat × Nat)) (s : String) :
    containsInRanges rs (.str s) = true ↔ ∃ c ∈ s.toList, inRanges rs c = true := by
  simp only [containsInRanges, strPred, List.any_eq_true]

theorem inRanges_singleton (lo hi : Nat) (c : Char) : inRanges [(lo, hi)] c = true ↔ lo ≤ c.toNat ∧ c.toNat ≤ hi := by
  simp [inRanges]

theorem containsInRanges_single (lo hi : Nat) (s : String) :
    containsInRanges [(lo, hi)] (.str s) = true ↔ ∃ c ∈ s.toList, lo ≤ c.toNat ∧ c.toNat ≤ hi := by
  simp only [containsInRanges_spec, inRanges_singleton]

theorem any_range_iff_mem (rs : List (Nat × Nat)) (n : Nat) :
    rs.any (fun r => r.1 ≤ n && n ≤ r.2) = true ↔ n ∈ rs.flatMap (fun r => List.range' r.1 (r.2 + 1 - r.1)) := by
  simp only [List.any_eq_true, List.mem_flatMap, List.mem_range'_1, Bool.and_eq_true, decide_eq_true_eq]
  exact exists_congr fun r => and_congr_right fun _ => and_congr_right fun _ => by omega

/-- lets the examples evaluate on the character list, not through the UTF-8 decoder of `String.toList` -/
theorem isUUID_ofList (cs : List Char) : isUUID (String.ofList cs) = isUUIDChars cs := by
  rw [isUUID, String.toList_ofList]

theorem isEmail_ofList (cs : List Char) : isEmail (String.ofList cs) = isEmailChars cs := by
  rw [isEmail, String.toList_ofList]

end Zog
