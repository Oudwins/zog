import Zog.Helpers

/-!
# Simulation: heap machine (with copying clone) ≡ pure specification, for every program and growth policy

Every operation is a store primitive (`alloc`, `append`, `clone`) followed by pushing or replacing one
object. `Yields` says what the three primitives have in common; `Yields.push` and `Yields.set` are the
two ways an object takes the slice a primitive returns. `run_sim` is the simulation from any heap that
satisfies `Inv`; `C16.heap_refines_pure` is its instance at the empty heap. At the end, the list and
field-map facts behind C16's frame and set-semantics statements.
-/

namespace Zog
namespace Helpers

/-- every object owns the array under its tests: allocated, shared with no other object, and at least as
    long as the object's slice -/
structure Inv (h : Heap) : Prop where
  fresh : ∀ o ∈ h.objs, o.tests.arr < h.next
  nodup : (h.objs.map (·.tests.arr)).Nodup
  lenOK : ∀ o ∈ h.objs, o.tests.len ≤ (h.arrays o.tests.arr).length

theorem upd_same (f : Nat → List Nat) (a : Nat) (v : List Nat) : upd f a v a = v := by simp [upd]
theorem upd_other (f : Nat → List Nat) (a b : Nat) (v : List Nat) (h : b ≠ a) : upd f a v b = f b := by simp [upd, h]

theorem alloc_objs (h : Heap) (xs : List Nat) (sp : Nat) : (h.alloc xs sp).1.objs = h.objs := rfl
theorem alloc_next (h : Heap) (xs : List Nat) (sp : Nat) : (h.alloc xs sp).1.next = h.next + 1 := rfl
theorem alloc_slice (h : Heap) (xs : List Nat) (sp : Nat) : (h.alloc xs sp).2 = ⟨h.next, xs.length⟩ := rfl

theorem read_alloc_new (h : Heap) (xs : List Nat) (sp : Nat) : (h.alloc xs sp).1.read (h.alloc xs sp).2 = xs := by
  simp [Heap.alloc, Heap.read, upd_same]

theorem read_alloc_old (h : Heap) (xs : List Nat) (sp : Nat) (s : Slice) (hs : s.arr < h.next) :
    (h.alloc xs sp).1.read s = h.read s := by
  simp only [Heap.alloc, Heap.read]
  rw [upd_other _ _ _ _ (Nat.ne_of_lt hs)]

theorem abs_getElem? (h : Heap) (i : Nat) : h.abs[i]? = (h.objs[i]?).map (fun o => ⟨o.fields, h.read o.tests⟩) :=
  List.getElem?_map ..

theorem forall_mem_set {α : Type} {P : α → Prop} {l : List α} (hl : ∀ x ∈ l, P x) {a : α} (ha : P a) (i : Nat) :
    ∀ x ∈ l.set i a, P x :=
  fun x hx => (List.mem_or_eq_of_mem_set hx).elim (hl x) fun e => e ▸ ha

/-- writing `a` at a position that holds `a` already, or where `a` occurs nowhere else, keeps a list duplicate-free -/
theorem nodup_set {α : Type} {l : List α} (hl : l.Nodup) {i : Nat} {a : α} (h : ∀ j, l[j]? = some a → j = i) :
    (l.set i a).Nodup := by
  induction l generalizing i with
  | nil => exact hl
  | cons x l ih =>
    have ⟨hx, hl⟩ := List.nodup_cons.mp hl
    cases i with
    | zero =>
      refine List.nodup_cons.mpr ⟨fun ha => ?_, hl⟩
      have ⟨j, hj⟩ := List.getElem?_of_mem ha
      exact Nat.succ_ne_zero j (h (j + 1) hj)
    | succ i =>
      refine List.nodup_cons.mpr ⟨fun hm => ?_, ih hl fun j hj => Nat.succ.inj (h (j + 1) hj)⟩
      rcases List.mem_or_eq_of_mem_set hm with hm | rfl
      · exact hx hm
      · exact Nat.succ_ne_zero i (h 0 rfl).symm

/-- two objects on one array are the same object -/
theorem Inv.owner {h : Heap} (hi : Inv h) {j k : Nat} {p q : HObj} (hj : h.objs[j]? = some p) (hk : h.objs[k]? = some q)
    (e : p.tests.arr = q.tests.arr) : j = k := by
  have hlt : j < (h.objs.map (·.tests.arr)).length := by
    rw [List.length_map]
    exact (List.getElem?_eq_some_iff.mp hj).1
  refine (List.getElem?_inj hlt hi.nodup).mp ?_
  rw [List.getElem?_map, List.getElem?_map, hj, hk, Option.map_some, Option.map_some, e]

/-- a new store in which every object still finds its cells keeps the invariant and the readings -/
theorem Inv.store {h : Heap} (hi : Inv h) {arrs : Nat → List Nat} {n : Nat} (hn : h.next ≤ n)
    (hr : ∀ o ∈ h.objs, (arrs o.tests.arr).take o.tests.len = h.read o.tests ∧ o.tests.len ≤ (arrs o.tests.arr).length) :
    Inv ⟨arrs, n, h.objs⟩ ∧ Heap.abs ⟨arrs, n, h.objs⟩ = h.abs :=
  ⟨⟨fun o ho => Nat.lt_of_lt_of_le (hi.fresh o ho) hn, hi.nodup, fun o ho => (hr o ho).2⟩,
    List.map_congr_left fun o ho => by rw [Heap.read, (hr o ho).1]⟩

/-- What `alloc`, `append` and a copying `clone` have in common: the objects of `r.1` read as those of `h`,
    and `r.2` holds `xs` in cells that no object but the `i`-th owns (`i = r.1.objs.length`: that no object
    owns). -/
structure Yields (h : Heap) (i : Nat) (xs : List Nat) (r : Heap × Slice) : Prop where
  inv : Inv r.1
  abs : r.1.abs = h.abs
  lt : r.2.arr < r.1.next
  le : r.2.len ≤ (r.1.arrays r.2.arr).length
  own : ∀ j o, r.1.objs[j]? = some o → o.tests.arr = r.2.arr → j = i
  read : r.1.read r.2 = xs

/-- a fresh array is free for any object to take -/
theorem alloc_yields {h : Heap} (hi : Inv h) (i : Nat) (xs : List Nat) (sp : Nat) : Yields h i xs (h.alloc xs sp) := by
  have hs := hi.store (Nat.le_succ h.next) (arrs := upd h.arrays h.next (xs ++ List.replicate sp 0)) fun o ho => by
    rw [upd_other _ _ _ _ (Nat.ne_of_lt (hi.fresh o ho))]
    exact ⟨rfl, hi.lenOK o ho⟩
  refine ⟨hs.1, hs.2, Nat.lt_succ_self _, ?_, fun j o ho e => ?_, read_alloc_new h xs sp⟩
  · show xs.length ≤ (upd h.arrays h.next (xs ++ List.replicate sp 0) h.next).length
    rw [upd_same, List.length_append]
    exact Nat.le_add_right _ _
  · exact absurd e (Nat.ne_of_lt (hi.fresh o (List.mem_of_getElem? ho)))

/-- in place or reallocating, `append` yields the old contents plus the new element, in cells that are
    the owner's or fresh -/
theorem append_yields (grow : Nat → Nat) {h : Heap} (hi : Inv h) {i : Nat} {o : HObj} (ho : h.objs[i]? = some o) (t : Nat) :
    Yields h i (h.read o.tests ++ [t]) (h.append grow o.tests t) := by
  simp only [Heap.append]
  split
  next hcap =>
    -- the write lands beyond what the owner reads, and nobody else reads this array
    have hs := hi.store (Nat.le_refl _)
      (arrs := upd h.arrays o.tests.arr ((h.arrays o.tests.arr).set o.tests.len t)) fun p hp => by
        by_cases e : p.tests.arr = o.tests.arr
        · have ⟨j, hj⟩ := List.getElem?_of_mem hp
          cases hi.owner hj ho e
          cases hj.symm.trans ho
          rw [upd_same, List.length_set]
          exact ⟨List.take_set_of_le (Nat.le_refl _), Nat.le_of_lt hcap⟩
        · rw [upd_other _ _ _ _ e]
          exact ⟨rfl, hi.lenOK p hp⟩
    refine ⟨hs.1, hs.2, hi.fresh o (List.mem_of_getElem? ho), ?_, fun j p hp e => hi.owner hp ho e, ?_⟩
    · dsimp only
      rw [upd_same, List.length_set]
      exact hcap
    · dsimp only [Heap.read]
      rw [upd_same, List.take_add_one, List.take_set_of_le (Nat.le_refl _), List.getElem?_set_self hcap]
      rfl
  next => exact alloc_yields hi i _ _

theorem clone_yields (grow : Nat → Nat) {h : Heap} (hi : Inv h) (i : Nat) (s : Slice) :
    Yields h i (h.read s) (h.clone true grow s) :=
  alloc_yields hi i _ _

/-- a new object takes the slice -/
theorem Yields.push {h : Heap} {xs : List Nat} {r : Heap × Slice} (y : Yields h r.1.objs.length xs r) (f : FieldMap) :
    Inv { r.1 with objs := r.1.objs ++ [⟨f, r.2⟩] } ∧
      Heap.abs { r.1 with objs := r.1.objs ++ [⟨f, r.2⟩] } = h.abs ++ [⟨f, xs⟩] := by
  refine ⟨⟨List.forall_mem_append.mpr ⟨y.inv.fresh, List.forall_mem_singleton.mpr y.lt⟩, ?_,
    List.forall_mem_append.mpr ⟨y.inv.lenOK, List.forall_mem_singleton.mpr y.le⟩⟩, ?_⟩
  · rw [List.map_append, List.nodup_append]
    refine ⟨y.inv.nodup, List.pairwise_singleton _ _, fun a ha b hb e => ?_⟩
    obtain ⟨o, ho, rfl⟩ := List.mem_map.mp ha
    cases List.mem_singleton.mp hb
    have ⟨j, hj⟩ := List.getElem?_of_mem ho
    exact Nat.ne_of_lt (List.getElem?_eq_some_iff.mp hj).1 (y.own j o hj e)
  · rw [← y.abs, ← y.read]
    exact List.map_append

/-- the `i`-th object takes the slice -/
theorem Yields.set {h : Heap} {i : Nat} {xs : List Nat} {r : Heap × Slice} (y : Yields h i xs r) (f : FieldMap) :
    Inv { r.1 with objs := r.1.objs.set i ⟨f, r.2⟩ } ∧
      Heap.abs { r.1 with objs := r.1.objs.set i ⟨f, r.2⟩ } = h.abs.set i ⟨f, xs⟩ := by
  refine ⟨⟨forall_mem_set y.inv.fresh y.lt i, ?_, forall_mem_set y.inv.lenOK y.le i⟩, ?_⟩
  · rw [List.map_set]
    refine nodup_set y.inv.nodup fun j hj => ?_
    obtain ⟨o, ho, e⟩ := Option.map_eq_some_iff.mp (List.getElem?_map .. ▸ hj)
    exact y.own j o ho e
  · rw [← y.abs, ← y.read]
    exact List.map_set

/-- Pick, Omit and Extend: a copy of the operand's tests under fields computed from the operand's -/
theorem derive_sim (grow : Nat → Nat) {h : Heap} (hi : Inv h) (g : FieldMap → FieldMap) (i : Nat) :
    let h' := match h.objs[i]? with
      | some o => { (h.clone true grow o.tests).1 with
          objs := (h.clone true grow o.tests).1.objs ++ [⟨g o.fields, (h.clone true grow o.tests).2⟩] }
      | none => h
    Inv h' ∧ h'.abs = match h.abs[i]? with
      | some o => h.abs ++ [⟨g o.fields, o.tests⟩]
      | none => h.abs := by
  rw [abs_getElem?]
  cases h.objs[i]? with
  | none => exact ⟨hi, rfl⟩
  | some o => exact (clone_yields grow hi _ o.tests).push _

/-- **One step.** With a copying clone, every operation of the heap machine is the pure operation,
    and the ownership invariant is kept — for every growth policy. -/
theorem step_sim (grow : Nat → Nat) (h : Heap) (hi : Inv h) (op : Op) :
    Inv (h.step true grow op) ∧ (h.step true grow op).abs = Pure.step h.abs op := by
  cases op with
  | mk f => exact (alloc_yields hi _ [] 0).push f
  | test i t =>
    simp only [Heap.step, Pure.step, abs_getElem?]
    cases ho : h.objs[i]? with
    | none => exact ⟨hi, rfl⟩
    | some o => exact (append_yields grow hi ho t).set o.fields
  -- `Heap.step` on these three destructures the clone with a `let`; `derive_sim` states it with projections
  | pick i keys => exact derive_sim grow hi (fmPick · keys) i
  | omitKeys i keys => exact derive_sim grow hi (fmOmit · keys) i
  | extend i f => exact derive_sim grow hi (fmUnion · f) i
  | merge a b =>
    simp only [Heap.step, Pure.step, abs_getElem?]
    cases h.objs[a]? with
    | none => exact ⟨hi, rfl⟩
    | some x =>
      cases h.objs[b]? with
      | none => exact ⟨hi, rfl⟩
      | some y => exact (alloc_yields hi _ _ _).push _

theorem inv_init : Inv Heap.init := ⟨nofun, List.nodup_nil, nofun⟩

theorem run_sim (grow : Nat → Nat) (ops : List Op) :
    ∀ (h : Heap), Inv h → Inv (ops.foldl (Heap.step true grow) h) ∧
      (ops.foldl (Heap.step true grow) h).abs = ops.foldl Pure.step h.abs := by
  induction ops with
  | nil => exact fun h hi => ⟨hi, rfl⟩
  | cons op rest ih =>
    intro h hi
    have ⟨hi', ha⟩ := step_sim grow h hi op
    rw [List.foldl_cons, List.foldl_cons, ← ha]
    exact ih _ hi'

theorem getElem?_push? (s : Pure) (j : Nat) (hj : j < s.length) (x : Option PObj) (f : PObj → PObj) :
    (match x with
      | some a => s ++ [f a]
      | none => s)[j]? = s[j]? := by
  cases x with
  | none => rfl
  | some a => exact List.getElem?_append_left hj

/-- the keys of a union are the keys of its operands -/
theorem union_keys (a b : FieldMap) (k : String) :
    k ∈ (fmUnion a b).map (·.1) ↔ k ∈ a.map (·.1) ∨ k ∈ b.map (·.1) := by
  rw [fmUnion, List.map_append, List.mem_append]
  by_cases hb : k ∈ b.map (·.1)
  · exact iff_of_true (Or.inr hb) (Or.inr hb)
  · simp only [List.mem_map, List.mem_filter]
    refine or_congr_left (exists_congr fun p => and_congr_left fun e => and_iff_left ?_)
    rw [e, List.contains_eq_mem, decide_eq_false hb]
    rfl

/-- Merge is associative on the fields, as lists -/
theorem fmUnion_assoc (a b c : FieldMap) : fmUnion (fmUnion a b) c = fmUnion a (fmUnion b c) := by
  have key (k : String) :
      ((fmUnion b c).map (·.1)).contains k = ((b.map (·.1)).contains k || (c.map (·.1)).contains k) := by
    rw [Bool.eq_iff_iff]
    simp only [List.contains_eq_mem, Bool.or_eq_true, decide_eq_true_eq, union_keys]
  unfold fmUnion at key ⊢
  simp only [key, List.filter_append, List.filter_filter, List.append_assoc, Bool.not_or, Bool.and_comm]

end Helpers
end Zog
