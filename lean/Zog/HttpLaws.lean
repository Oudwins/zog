import Zog.Http

/-!
# Lemmas about the zhttp model
`mediaType` cuts at the first `;`, and `dispatch` over arbitrary method and media-type tables ignores what
follows it; C15 instantiates them at the regenerated tables.
-/

namespace Zog.Http

theorem takeWhile_eq_self {α : Type} {p : α → Bool} {l : List α} (h : ∀ a ∈ l, p a = true) : l.takeWhile p = l := by
  simpa using List.takeWhile_append_of_pos (l₂ := []) h

theorem mediaType_append (mt rest : List Char) (h : ∀ c ∈ mt, c ≠ ';') :
    mediaType (mt ++ rest) = mt ++ mediaType rest :=
  List.takeWhile_append_of_pos fun c hc => bne_iff_ne.mpr (h c hc)

theorem dispatch_params_ignored (methods types : List (List Char × Source)) (method mt p : List Char)
    (h : ∀ c ∈ mt, c ≠ ';') : dispatch methods types method (mt ++ ';' :: p) = dispatch methods types method mt := by
  have h1 : mediaType (mt ++ ';' :: p) = mt := (mediaType_append mt _ h).trans (List.append_nil mt)
  have h2 : mediaType mt = mt := takeWhile_eq_self fun c hc => bne_iff_ne.mpr (h c hc)
  rw [dispatch, dispatch, h1, h2]

theorem dispatch_of_no_method (methods types : List (List Char × Source)) (method ct : List Char)
    (hm : lookupC methods method = none) :
    dispatch methods types method ct = (lookupC types (mediaType ct)).getD .query := by
  rw [dispatch, hm]

end Zog.Http
