import Zog.Laws
import Zog.Atoi

/-!
# Front ends as views of one record   — C14
Three parts: `ViewEq`, two inputs a schema node cannot tell apart, as a congruence over primitive,
pointer, slice and struct nodes; the concrete front ends, a record presented as a map and as a flat
source; the whole record at depth 1 (`flat_and_map_views_agree`). That a number's rendering parses
back (`atoi_toString`) is Zog/Atoi.lean.
-/

/-!
Part 1: two input values are *views of the same datum* for a schema node when the node cannot
tell them apart — whatever the formatter, the path, the destination it starts from and the state.
A primitive, pointer or slice node sees of its input whether it is absent and, if it is present,
what its coercer or the node below makes of it; a struct's field loop sees what its provider
answers for the key of each field.
-/

namespace Zog
namespace Spec
open Engine (Prov provOf zipIdx3)

/-- `v₁` and `v₂` are indistinguishable to the node `s` -/
def ViewEq (s : Schema) (v₁ v₂ : Val) : Prop :=
  ∀ (env : Env) (path : List String) (d : DVal) (st : St),
    proc env .parse s none path v₁ d st = proc env .parse s none path v₂ d st

theorem ViewEq.refl (s : Schema) (v : Val) : ViewEq s v v := fun _ _ _ _ => rfl

theorem ViewEq.symm {s : Schema} {v₁ v₂ : Val} (h : ViewEq s v₁ v₂) : ViewEq s v₂ v₁ :=
  fun env path d st => (h env path d st).symm

theorem ViewEq.trans {s : Schema} {v₁ v₂ v₃ : Val} (h₁ : ViewEq s v₁ v₂) (h₂ : ViewEq s v₂ v₃) : ViewEq s v₁ v₃ :=
  fun env path d st => (h₁ env path d st).trans (h₂ env path d st)

/-- a primitive node: both absent (nil, missing key, blank string — it cannot tell how), or both
    present with the same coercion result; read at `tag = none` the conclusion is `ViewEq (.prim p) v₁ v₂` -/
theorem prim_congr (p : Prim) {v₁ v₂ : Val} (habs : isParseZero v₁ = isParseZero v₂)
    (hco : isParseZero v₁ = false → p.coerce v₁ = p.coerce v₂) (env : Env) (path : List String) (d : DVal) (st : St) :
    prim env .parse p path v₁ d st = prim env .parse p path v₂ d st := by
  unfold prim primBody Engine.primAbsent
  rw [habs]
  cases h : isParseZero v₂
  · rw [hco (habs.trans h)]
  · rfl

/-- a pointer node passes the question on to the pointed-to node; at `tag = none` this is
    `ViewEq elem v₁ v₂ → ViewEq (.ptr elem zp nn) v₁ v₂` -/
theorem ptr_congr (elem : Schema) (zp : DVal) (nn : Option Test) (tag : Option String) {v₁ v₂ : Val}
    (habs : isParseZero v₁ = isParseZero v₂)
    (h : isParseZero v₁ = false → ∀ env path d st,
      proc env .parse elem tag path v₁ d st = proc env .parse elem tag path v₂ d st)
    (env : Env) (path : List String) (d : DVal) (st : St) :
    proc env .parse (.ptr elem zp nn) tag path v₁ d st = proc env .parse (.ptr elem zp nn) tag path v₂ d st := by
  have e : ∀ v, Engine.ptrAbsent .parse v d = isParseZero v := fun _ => rfl
  rw [proc_ptr, proc_ptr, e, e, habs]
  cases h' : isParseZero v₂
  · simp only [h (habs.trans h')]
  · rfl

inductive Pairwise₂ (R : Val → Val → Prop) : List Val → List Val → Prop
  | nil : Pairwise₂ R [] []
  | cons {a b : Val} {as bs : List Val} : R a b → Pairwise₂ R as bs → Pairwise₂ R (a :: as) (b :: bs)

theorem sliceLoop_views (env : Env) (elem : Schema) (path : List String) (xs₁ xs₂ : List Val) (z : DVal)
    (h : Pairwise₂ (ViewEq elem) xs₁ xs₂) (i : Nat) (acc : List DVal) (st : St) :
    sliceLoop (proc env .parse elem none) path (zipIdx3 xs₁ (xs₁.map (fun _ => z)) i) acc st =
    sliceLoop (proc env .parse elem none) path (zipIdx3 xs₂ (xs₂.map (fun _ => z)) i) acc st := by
  induction h generalizing i acc st with
  | nil => rfl
  | cons hx _ ih =>
    simp only [List.map_cons, zipIdx3, sliceLoop]
    rw [hx env _ z st]
    exact ih _ _ _

/-- a slice node: both absent, or both coerced to lists of the same length whose elements are
    pairwise views of the same datum for the element schema -/
theorem viewEq_slice (elem : Schema) (sm : SliceMods) {v₁ v₂ : Val} (habs : isParseZero v₁ = isParseZero v₂)
    (hco : isParseZero v₁ = false → (sm.coerce v₁ = none ∧ sm.coerce v₂ = none) ∨
      ∃ xs₁ xs₂, sm.coerce v₁ = some xs₁ ∧ sm.coerce v₂ = some xs₂ ∧ Pairwise₂ (ViewEq elem) xs₁ xs₂) :
    ViewEq (.slice elem sm) v₁ v₂ := by
  intro env path d st
  rw [proc_slice_eq, proc_slice_eq]
  unfold sliceBody
  rw [habs]
  cases h : isParseZero v₂
  · rcases hco (habs.trans h) with ⟨c1, c2⟩ | ⟨xs₁, xs₂, c1, c2, hxs⟩
    · rw [c1, c2]
    · simp only [c1, c2, Bool.false_eq_true, ↓reduceIte, sliceLoop_views env elem path xs₁ xs₂ sm.zeroElem hxs]
  · rfl

/-- two data providers name every field of a struct schema by the same key and present, for every
    field, views of the same datum -/
def SameFields (fs : Fields) (tag₁ tag₂ : Option String) (prov₁ prov₂ : Prov) : Prop :=
  ∀ k fm s, (k, fm, s) ∈ fs.toList →
    prov₁.keyFor tag₁ fm k = prov₂.keyFor tag₂ fm k ∧
    ViewEq s (prov₁.get (prov₁.keyFor tag₁ fm k)) (prov₂.get (prov₂.keyFor tag₂ fm k))

/-- **Two providers, one record.** The struct's field loop cannot tell such providers apart — for
    every visit order, destination and state. -/
theorem procKey_views (env : Env) (tag₁ tag₂ : Option String) (prov₁ prov₂ : Prov) (path : List String) :
    (fs : Fields) → SameFields fs tag₁ tag₂ prov₁ prov₂ →
    ∀ (key : String) (d : DVal) (st : St),
      procKey env .parse fs key tag₁ prov₁ path d st = procKey env .parse fs key tag₂ prov₂ path d st
  | .nil => fun _ _ _ _ => by simp only [procKey_nil]
  | .cons k fm s rest => fun h key d st => by
    obtain ⟨hkey, hview⟩ := h k fm s List.mem_cons_self
    rw [hkey] at hview
    simp only [procKey_cons, fieldKeyOf, fieldInput, hkey, hview env _ _ st, procKey_views env tag₁ tag₂ prov₁ prov₂ path rest
      (fun k' fm' s' hm => h k' fm' s' (List.mem_cons_of_mem _ hm)) key d st]

theorem fieldLoop_views (env : Env) (fs : Fields) (tag₁ tag₂ : Option String) (prov₁ prov₂ : Prov) (path : List String)
    (h : SameFields fs tag₁ tag₂ prov₁ prov₂) :
    fieldLoop (fun k d st => procKey env .parse fs k tag₁ prov₁ path d st) =
    fieldLoop (fun k d st => procKey env .parse fs k tag₂ prov₂ path d st) :=
  congrArg fieldLoop (funext fun k => funext fun d => funext fun st =>
    procKey_views env tag₁ tag₂ prov₁ prov₂ path fs h k d st)

/-- …and neither can the struct node: two inputs that are read through such providers give the same
    destination, issues and log, whichever source tag either is read under -/
theorem struct_views (env : Env) (fs : Fields) (tests : List Test) (posts : List Post) (tag₁ tag₂ : Option String)
    {v₁ v₂ : Val} {prov₁ prov₂ : Prov} (hp₁ : provOf v₁ = some prov₁) (hp₂ : provOf v₂ = some prov₂)
    (h : SameFields fs tag₁ tag₂ prov₁ prov₂) (path : List String) (d : DVal) (st : St) :
    proc env .parse (.struct fs tests posts) tag₁ path v₁ d st =
    proc env .parse (.struct fs tests posts) tag₂ path v₂ d st := by
  simp only [proc_struct_eq, structBody, structFields, hp₁, hp₂, fieldLoop_views env fs tag₁ tag₂ prov₁ prov₂ path h]

end Spec
end Zog

/-!
Part 2: the concrete front ends. One logical record, presented (a) as a Go map / decoded JSON
object — native leaves, a missing key reads nil — and (b) as a form / query string / environment —
string-typed leaves, a single value is a string and a repeated one a list, a missing key reads "".
-/

namespace Zog
namespace Spec

inductive Leaf where
  | str (s : String)
  | int (n : Int)
  | bool (b : Bool)
  /-- a repeated value -/
  | strs (xs : List String)
  /-- any other leaf given by its two presentations (e.g. a time: `time.Time` in a Go map, its
      RFC3339 / layout rendering in a flat source) -/
  | dual (native flat : Val)

def boolStr (b : Bool) : String := if b then "true" else "false"

/-- the leaf as a Go map (or a JSON document decoded into one) presents it -/
def Leaf.native : Leaf → Val
  | .str s => .str s
  | .int n => .int .int n
  | .bool b => .bool b
  | .strs xs => .list (xs.map Val.str)
  | .dual nv _ => nv

/-- the leaf as a url.Values / environment source presents it (`urlDataProvider.Get`) -/
def Leaf.flat : Leaf → Val
  | .str s => .str s
  | .int n => .str (toString n)
  | .bool b => .str (boolStr b)
  | .strs xs => if xs.length > 1 then .list (xs.map Val.str) else .str (xs.headD "")
  | .dual _ fv => fv

abbrev Record := List (String × Leaf)

def mapView (r : Record) : List (String × Val) := r.map (fun p => (p.1, p.2.native))
def flatView (r : Record) : List (String × Val) := r.map (fun p => (p.1, p.2.flat))

theorem lookupD_map {α β : Type} (f : α → β) (kvs : List (String × α)) (k : String) :
    lookupD (kvs.map (fun p => (p.1, f p.2))) k = (lookupD kvs k).map f := by
  induction kvs with
  | nil => rfl
  | cons p rest ih =>
    simp only [List.map_cons, lookupD, ih]
    cases p.1 == k <;> rfl

theorem not_space_of_isDigit {c : Char} (h : c.isDigit = true) : isGoSpace c = false := by
  obtain ⟨h0, h9⟩ := Char.isDigit_iff_toNat.mp h
  have sweep : ∀ n ≤ '9'.toNat, '0'.toNat ≤ n → isGoSpace (Char.ofNat n) = false := by decide +kernel
  exact Char.ofNat_toNat c ▸ sweep c.toNat h9 h0

theorem not_blank_of_head {s : String} {c : Char} {cs : List Char} (hs : s.toList = c :: cs)
    (hc : isGoSpace c = false) : isBlank s = false := by
  rw [isBlank, hs, List.all_cons, hc, Bool.false_and]

/-- a rendering starts with a digit or with the minus sign -/
theorem intRepr_not_blank (n : Int) : isBlank (toString n) = false := by
  cases n with
  | ofNat m =>
    obtain ⟨c, cs, h⟩ := List.exists_cons_of_ne_nil (Nat.toDigits_ne_nil (b := 10) (n := m))
    exact not_blank_of_head (Nat.toList_repr.trans h)
      (not_space_of_isDigit (isDigit_of_mem_toDigits (h ▸ List.mem_cons_self)))
  | negSucc m => exact not_blank_of_head (toList_toString_negSucc m) (by decide)

theorem boolStr_not_blank (b : Bool) : isBlank (boolStr b) = false := by
  cases b <;> exact not_blank_of_head (String.toList_ofList ..) (by decide)

/-- the node `s` reads the leaf `l` the same way from both sources (pointers: one level, to a primitive) -/
def LeafOK : Schema → Leaf → Prop
  | _, .str _ => True
  | .prim p, .int n => minInt64 ≤ n ∧ n ≤ maxInt64 ∧ p.coerce (.str (toString n)) = p.coerce (.int .int n)
  | .prim p, .bool b => p.coerce (.str (boolStr b)) = p.coerce (.bool b)
  | .slice _ sm, .strs xs =>
    sm.coerce = coerceSlice ∧ (xs.length > 1 ∨ ∃ x, xs = [x] ∧ isBlank x = false)
  | .ptr (.prim p) _ _, .int n => minInt64 ≤ n ∧ n ≤ maxInt64 ∧ p.coerce (.str (toString n)) = p.coerce (.int .int n)
  | .ptr (.prim p) _ _, .bool b => p.coerce (.str (boolStr b)) = p.coerce (.bool b)
  | .prim p, .dual nv fv => isParseZero fv = false ∧ isParseZero nv = false ∧ p.coerce fv = p.coerce nv
  | _, _ => False

/-- a missing key reads nil from a map and "" from a flat source: primitives, slices and pointers
    cannot tell (nested struct schemas can — known finding D17) -/
def absentBlind : Schema → Bool
  | .prim _ => true
  | .slice .. => true
  | .ptr .. => true
  | _ => false

theorem viewEq_absent (s : Schema) (hs : absentBlind s = true) (v₁ v₂ : Val)
    (h1 : isParseZero v₁ = true) (h2 : isParseZero v₂ = true) : ViewEq s v₁ v₂ := by
  have habs := h1.trans h2.symm
  have hp {P : Prop} (h : isParseZero v₁ = false) : P := Bool.noConfusion (h1.symm.trans h)
  cases s with
  | prim p => exact prim_congr p habs hp
  | slice elem sm => exact viewEq_slice elem sm habs hp
  | ptr elem zp nn => exact ptr_congr elem zp nn none habs hp
  | _ => exact absurd hs Bool.false_ne_true

theorem viewEq_leaf (s : Schema) (l : Leaf) (h : LeafOK s l) : ViewEq s l.flat l.native := by
  -- the clauses of `LeafOK`, in its order; `isParseZero` of a string is `isBlank` and of a number or
  -- bool `false`, so the non-blankness of a rendering is the `habs` that `prim_congr` asks for
  revert h
  fun_cases LeafOK s l <;> intro h
  case case1 => exact .refl _ _
  case case2 p n => exact prim_congr p (intRepr_not_blank n) fun _ => h.2.2
  case case3 p b => exact prim_congr p (boolStr_not_blank b) fun _ => h
  case case4 elem sm xs =>
    obtain ⟨hco, hl | ⟨x, rfl, hx⟩⟩ := h
    · simp only [Leaf.flat, hl, ↓reduceIte, Leaf.native]
      exact .refl _ _
    · -- a single value: the flat source hands over the string, the slice coercer boxes it
      exact viewEq_slice elem sm hx fun _ => .inr ⟨[.str x], [.str x], hco ▸ rfl, hco ▸ rfl, .cons (.refl _ _) .nil⟩
  case case5 p zp nn n =>
    exact ptr_congr _ zp nn none (intRepr_not_blank n) fun _ => prim_congr p (intRepr_not_blank n) fun _ => h.2.2
  case case6 p zp nn b =>
    exact ptr_congr _ zp nn none (boolStr_not_blank b) fun _ => prim_congr p (boolStr_not_blank b) fun _ => h
  case case7 p nv fv => exact prim_congr p (h.1.trans h.2.1.symm) fun _ => h.2.2
  case case8 => exact h.elim

end Spec
end Zog

/-!
Part 3: the whole record. A struct schema whose fields are read either from the flat source
(`form`/`query`/`env`: tag `tag`) or from the map source — every field named by the same key in
both, every datum a leaf its node reads the same way, every missing key under a node that cannot
tell nil from "" — produces the same destination, the same issues and the same callback log.
-/

namespace Zog
namespace Spec
open Engine (Prov)

/-- what is required of the field `(k, fm, s)` of the schema, given the record -/
def FieldOK (r : Record) (tag : Option String) (k : String) (fm : FieldMeta) (s : Schema) : Prop :=
  Engine.keyFor tag fm k = Engine.keyFor none fm k ∧
  ¬ ((Engine.keyFor none fm k).length > 2 ∧ (Engine.keyFor none fm k).endsWith "[]" = true) ∧
  match lookupD r (Engine.keyFor none fm k) with
  | some l => LeafOK s l
  | none => absentBlind s = true

theorem flat_get (r : Record) (k : String) (hk : ¬ (k.length > 2 ∧ k.endsWith "[]" = true)) :
    (Prov.flat (flatView r)).get k = ((lookupD r k).map Leaf.flat).getD (.str "") := by
  simp only [Prov.get, flatView, lookupD_map, Bool.and_eq_true, decide_eq_true_eq, if_neg hk]

theorem map_get (r : Record) (k : String) :
    (Prov.map (mapView r)).get k = ((lookupD r k).map Leaf.native).getD .nil := by
  simp only [Prov.get, mapView, lookupD_map]

/-- what the two sources answer for a key: a leaf its node reads alike, or nothing under a node
    that cannot tell `""` from nil -/
theorem viewEq_get (r : Record) (s : Schema) (k : String) (hk : ¬ (k.length > 2 ∧ k.endsWith "[]" = true))
    (hl : match lookupD r k with
      | some l => LeafOK s l
      | none => absentBlind s = true) :
    ViewEq s ((Prov.flat (flatView r)).get k) ((Prov.map (mapView r)).get k) := by
  rw [flat_get r k hk, map_get]
  cases hlk : lookupD r k with
  | none =>
    rw [hlk] at hl
    exact viewEq_absent s hl (.str "") .nil (by decide) rfl
  | some l =>
    rw [hlk] at hl
    exact viewEq_leaf s l hl

/-- **A flat source and a map source presenting one record are indistinguishable (depth 1).** For
    every struct schema whose fields are `FieldOK` for the record (the empty record included, which
    the map source hands over as the empty provider), every visit order, destination and state:
    parsing the record's flat rendering under `tag` and its map rendering under no source tag give
    the same result. -/
theorem flat_and_map_views_agree (env : Env) (r : Record) (tag : Option String)
    (fs : Fields) (tests : List Test) (posts : List Post)
    (hfs : ∀ k fm s, (k, fm, s) ∈ fs.toList → FieldOK r tag k fm s)
    (path : List String) (d : DVal) (st : St) :
    proc env .parse (.struct fs tests posts) tag path (.flat (flatView r)) d st =
    proc env .parse (.struct fs tests posts) none path (.obj (mapView r)) d st := by
  have field : SameFields fs tag none (.flat (flatView r)) (.map (mapView r)) := fun k fm s hm => by
    obtain ⟨hk, hsuf, hl⟩ := hfs k fm s hm
    refine ⟨hk, ?_⟩
    rw [show (Prov.flat (flatView r)).keyFor tag fm k = _ from hk]
    exact viewEq_get r s _ hsuf hl
  cases r with
  -- `provOf` hands the empty object over as `.empty`, whose `keyFor` and `get` compute like those of `.map []`
  | nil => exact struct_views env fs tests posts tag none (prov₂ := .empty) rfl rfl field path d st
  | cons _ _ => exact struct_views env fs tests posts tag none rfl rfl field path d st

-- the default coercers meet the conditions `LeafOK` asks of a coercer

theorem default_int_reads_rendering (ext : Ext) (k : NKind) (hk : k = .int ∨ k = .i64 ∨ k = .i32) (n : Int)
    (hlo : minInt64 ≤ n) (hhi : n ≤ maxInt64) :
    coerceNum ext k (.str (toString n)) = coerceNum ext k (.int .int n) := by
  have h : coerceInt (.str (toString n)) = coerceInt (.int .int n) := atoi_toString n hlo hhi
  rcases hk with rfl | rfl | rfl <;> (unfold coerceNum; rw [h])

theorem default_bool_reads_rendering (b : Bool) : coerceBool (.str (boolStr b)) = coerceBool (.bool b) := by
  cases b <;> decide +kernel

/-- the String coercer reads a number's `%v` rendering, which is its decimal rendering -/
theorem default_string_reads_rendering (ext : Ext) (n : Int) (hd : ext.display (.int .int n) = toString n) :
    coerceString ext (.str (toString n)) = coerceString ext (.int .int n) := by
  simp [coerceString, hd]

end Spec
end Zog
