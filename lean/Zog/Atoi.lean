import Zog.Coerce

/-!
# `strconv.Atoi ∘ strconv.Itoa` is the identity on 64-bit integers   — C14, C18
The decimal rendering a form, query string or environment variable carries parses back to the number
a Go map or JSON document would have supplied. `atoi_ofList` lets examples evaluate `atoi` on a literal.
-/

namespace Zog

/-- what the round trip and the non-blankness of renderings both rest on: a decimal rendering
    consists of digits -/
theorem isDigit_of_mem_toDigits {n : Nat} {c : Char} (h : c ∈ Nat.toDigits 10 n) : c.isDigit = true :=
  Nat.isDigit_of_mem_toDigits (by decide) (by decide) h

theorem digitVal_of_isDigit {c : Char} (h : c.isDigit = true) : digitVal c = some (c.toNat - '0'.toNat) :=
  if_pos (by rwa [Char.isDigit, Bool.and_eq_true, decide_eq_true_eq, decide_eq_true_eq] at h)

theorem digitsVal_eq_ofDigitChars (cs : List Char) (acc : Nat) (h : ∀ c ∈ cs, c.isDigit = true) :
    digitsVal cs acc = some (Nat.ofDigitChars 10 cs acc) := by
  induction cs generalizing acc with
  | nil => rfl
  | cons c cs ih =>
    rw [digitsVal, digitVal_of_isDigit (h c List.mem_cons_self), Nat.ofDigitChars_cons, Nat.mul_comm]
    exact ih _ (fun x hx => h x (List.mem_cons_of_mem _ hx))

theorem digitsVal_toDigits (n : Nat) : digitsVal (Nat.toDigits 10 n) 0 = some n := by
  rw [digitsVal_eq_ofDigitChars _ _ (fun _ => isDigit_of_mem_toDigits), Nat.ofDigitChars_ten_toDigits]

/-- the digits of `k` under the sign `neg` denote `v`, provided `v` is a 64-bit integer -/
theorem atoiBody_toDigits (neg : Bool) (k : Nat) {v : Int} (hv : (if neg then -(k : Int) else k) = v)
    (hlo : minInt64 ≤ v) (hhi : v ≤ maxInt64) : atoiBody neg (Nat.toDigits 10 k) = some v := by
  have hne : (Nat.toDigits 10 k).isEmpty = false := List.isEmpty_eq_false_iff.mpr Nat.toDigits_ne_nil
  simp only [atoiBody, hne, digitsVal_toDigits, hv, hlo, hhi, Bool.false_eq_true, ↓reduceIte, and_self]

theorem atoi_digits {s : String} {cs : List Char} (hs : s.toList = cs) (hd : ∀ c ∈ cs, c.isDigit = true) :
    atoi s = atoiBody false cs := by
  unfold atoi
  rw [hs]
  split
  · exact absurd (hd '+' List.mem_cons_self) (by decide)
  · exact absurd (hd '-' List.mem_cons_self) (by decide)
  · rfl

theorem atoi_minus {s : String} {cs : List Char} (hs : s.toList = '-' :: cs) : atoi s = atoiBody true cs := by
  unfold atoi
  rw [hs]
  rfl

theorem toList_toString_negSucc (m : Nat) :
    (toString (Int.negSucc m)).toList = '-' :: Nat.toDigits 10 (m + 1) := by
  show ("-" ++ Nat.repr (m + 1)).toList = _
  simp only [String.toList_append, String.reduceToList, Nat.toList_repr, List.cons_append, List.nil_append]

/-- **`strconv.Atoi (strconv.Itoa n) = n`** for every 64-bit integer -/
theorem atoi_toString (n : Int) (hlo : minInt64 ≤ n) (hhi : n ≤ maxInt64) : atoi (toString n) = some n := by
  cases n with
  | ofNat m =>
    exact (atoi_digits (Nat.toList_repr (n := m)) (fun _ => isDigit_of_mem_toDigits)).trans
      (atoiBody_toDigits false m rfl hlo hhi)
  | negSucc m =>
    exact (atoi_minus (toList_toString_negSucc m)).trans (atoiBody_toDigits true (m + 1) rfl hlo hhi)

/-- On a literal `atoi` sees its characters. A string literal unifies with `String.ofList` of its
    characters, so rewriting with this (once per literal) lets an example evaluate on the character
    list and never run the UTF-8 decoder of `String.toList` in the kernel. -/
theorem atoi_ofList (cs : List Char) :
    atoi (String.ofList cs) = match cs with
      | '+' :: cs => atoiBody false cs
      | '-' :: cs => atoiBody true cs
      | cs => atoiBody false cs := by
  rw [atoi, String.toList_ofList]
  rfl

end Zog
