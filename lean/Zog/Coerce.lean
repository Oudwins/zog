import Zog.Basic

/-!
# Coercers (conf/Coercers.go, numbers.go adapters)   — C03, C18

External functions are parameters (record `Ext`): `strconv.ParseFloat`, `strconv.ParseBool` is
modelled natively (its accepted forms are a fixed list), `time.Parse`, `fmt.Sprintf("%v")`,
and the hardware `float32(x)` / `float64(n)` conversions have executable models here
(`toF32`, `ofInt`) that the correspondence check validates against Go.
-/

namespace Zog

/-! ## exact arithmetic on `FVal` -/

def pow2 (n : Nat) : Int := (2 : Int) ^ n

/-- truncate toward zero -/
def FVal.trunc? : FVal → Option Int
  | .fin m e => some (if e ≥ 0 then m * pow2 e.toNat else Int.tdiv m (pow2 (-e).toNat))
  | .nzero => some 0
  | _ => none

def minInt64 : Int := -(pow2 63)
def maxInt64 : Int := pow2 63 - 1
def minInt32 : Int := -(pow2 31)
def maxInt32 : Int := pow2 31 - 1

/-- `x ≥ 2^63` for a finite dyadic -/
def FVal.geTwo63 : FVal → Bool
  | .fin m e => if e ≥ 0 then decide (m * pow2 e.toNat ≥ pow2 63) else decide (m ≥ pow2 63 * pow2 (-e).toNat)
  | .inf neg => !neg
  | _ => false

/-- `x < -2^63` -/
def FVal.ltNegTwo63 : FVal → Bool
  | .fin m e => if e ≥ 0 then decide (m * pow2 e.toNat < -(pow2 63)) else decide (m < -(pow2 63) * pow2 (-e).toNat)
  | .inf neg => neg
  | _ => false

/-! ## strconv.Atoi -/

def digitVal (c : Char) : Option Nat :=
  if '0' ≤ c ∧ c ≤ '9' then some (c.toNat - '0'.toNat) else none

def digitsVal : List Char → Nat → Option Nat
  | [], acc => some acc
  | c :: cs, acc => match digitVal c with
    | some d => digitsVal cs (acc * 10 + d)
    | none => none

/-- digits (at least one) with the sign applied, in the 64-bit range -/
def atoiBody (neg : Bool) (cs : List Char) : Option Int :=
  if cs.isEmpty then none else
  match digitsVal cs 0 with
  | none => none
  | some n =>
    let v : Int := if neg then -(n : Int) else (n : Int)
    if minInt64 ≤ v ∧ v ≤ maxInt64 then some v else none

/-- `strconv.Atoi` on a 64-bit platform: optional sign, one or more decimal digits, in range -/
def atoi (s : String) : Option Int :=
  match s.toList with
  | '+' :: cs => atoiBody false cs
  | '-' :: cs => atoiBody true cs
  | cs => atoiBody false cs

/-! ## float conversions (executable models of the hardware operations) -/

/-- number of bits of a natural -/
def bitLen (n : Nat) : Nat := if n = 0 then 0 else Nat.log2 n + 1

/-- round the positive dyadic `m * 2^e` (m > 0) to `p` significant bits with exponent floor `emin`
    (value = result.1 * 2^result.2), round-half-even -/
def roundPos (p : Nat) (emin : Int) (m : Nat) (e : Int) : Nat × Int :=
  let bl := bitLen m
  -- target exponent of the lsb
  let e' : Int := max (e + (bl : Int) - (p : Int)) emin
  if e' ≤ e then (m * (2 : Nat) ^ (e - e').toNat, e')
  else
    let sh := (e' - e).toNat
    let q := m / 2 ^ sh
    let r := m % 2 ^ sh
    let half := 2 ^ (sh - 1)
    let q' := if r > half || (r == half && q % 2 == 1) then q + 1 else q
    (q', e')

/-- normal form: odd mantissa (or 0 0) so that equal values are equal terms -/
def normFin (m : Int) (e : Int) : FVal :=
  if m == 0 then .fin 0 0 else
  let n := m.natAbs
  let tz : Nat := Id.run do
    let mut k : Nat := 0
    let mut x : Nat := n
    for _ in [0:bitLen n] do
      if x % 2 == 0 then x := x / 2; k := k + 1
    return k
  .fin (m / ((2 ^ tz : Nat) : Int)) (e + (tz : Int))

/-- `float32(x)` for a float64 `x` -/
def toF32 : FVal → FVal
  | .fin m e =>
    if m == 0 then .fin 0 0 else
    let r := roundPos 24 (-149) m.natAbs e
    -- overflow: ≥ 2^128
    if (r.1 : Int) * pow2 (r.2 + 149).toNat ≥ pow2 (128 + 149) then .inf (m < 0)
    else if r.1 == 0 then (if m < 0 then .nzero else .fin 0 0)
    else normFin (if m < 0 then -(r.1 : Int) else r.1) r.2
  | f => f

/-- `float64(n)` for an int -/
def ofInt (n : Int) : FVal :=
  if n == 0 then .fin 0 0 else
  let r := roundPos 53 (-1074) n.natAbs 0
  normFin (if n < 0 then -(r.1 : Int) else r.1) r.2

def FVal.isInf : FVal → Bool
  | .inf _ => true
  | _ => false

/-! ## the coercers -/

structure Ext where
  /-- `strconv.ParseFloat(s, 64)`; `none` = error (syntax or range) -/
  parseFloat : String → Option FVal
  /-- `time.Parse(layout, s)` ↦ (unix ns, utc?) -/
  parseTime : String → String → Option (Int × Bool)
  /-- `fmt.Sprintf("%v", v)` -/
  display : Val → String

/-- `conf.DefaultCoercers.Int` (result: a Go `int`) -/
def coerceInt : Val → Option Int
  | .int .int n => some n
  | .int .i64 n => some n
  | .int .i32 n => some n
  | .str s => atoi s
  | .f64 f =>
    match f with
    | .nan => none
    | _ => if f.geTwo63 || f.ltNegTwo63 then none else f.trunc?
  | .bool b => some (if b then 1 else 0)
  | _ => none

/-- `conf.DefaultCoercers.Float64` -/
def coerceF64 (ext : Ext) : Val → Option FVal
  | .int .int n => some (ofInt n)
  | .str s => ext.parseFloat s
  | .f64 f => some f
  | .f32 f => some f
  | _ => none

/-- the five numeric schema constructors' coercers -/
def coerceNum (ext : Ext) (k : NKind) (v : Val) : Option DVal :=
  match k with
  | .int => (coerceInt v).map (DVal.int .int)
  | .i64 => (coerceInt v).map (DVal.int .i64)
  | .i32 => (coerceInt v).bind (fun n => if n < minInt32 ∨ n > maxInt32 then none else some (DVal.int .i32 n))
  | .f64 => (coerceF64 ext v).map (DVal.flt .f64)
  | .f32 => (coerceF64 ext v).bind (fun x =>
      let y := toF32 x
      if y.isInf && !x.isInf then none else some (DVal.flt .f32 y))

/-- `strconv.ParseBool` accepted forms -/
def parseBool (s : String) : Option Bool :=
  if s == "1" || s == "t" || s == "T" || s == "TRUE" || s == "true" || s == "True" then some true
  else if s == "0" || s == "f" || s == "F" || s == "FALSE" || s == "false" || s == "False" then some false
  else none

/-- `conf.DefaultCoercers.Bool` -/
def coerceBool : Val → Option Bool
  | .bool b => some b
  | .str s => if s == "on" then some true else if s == "off" then some false else parseBool s
  | .int .int n => if n == 0 then some false else if n == 1 then some true else none
  | _ => none

/-- `conf.DefaultCoercers.String` -/
def coerceString (ext : Ext) : Val → String
  | .str s => s
  | v => ext.display v

/-- `conf.TimeCoercerFactory(format)`; `layout` names the format function -/
def coerceTime (ext : Ext) (layout : String) : Val → Option (Int × Bool)
  | .time ns utc => some (ns, utc)
  | .str s => ext.parseTime layout s
  | .int .int n => some (n * 1000000000, false)
  | .int .i64 n => some (n * 1000000000, false)
  | _ => none

/-- `conf.DefaultCoercers.Slice`: a slice is itself, anything else is boxed -/
def coerceSlice : Val → Option (List Val)
  | .list xs => some xs
  | .nil => none   -- unreachable from the engine (nil is absent); reflect.TypeOf(nil).Kind() would panic
  | v => some [v]

end Zog
