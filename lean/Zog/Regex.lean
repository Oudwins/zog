/-!
# A backtracking semantics for the regular expressions zog ships   — C20
`Re` is the fragment of RE2 syntax the two shipped patterns (`uuidRegex`, `emailRegex`) use;
`Re.run` gives, for a position in a text (previous character + remaining input), every position a
match of the expression can end at. `Re.search` is `regexp.MatchString` (a match anywhere).
The patterns themselves are REGENERATED from string.go into `Zog.Gen.Regex`. Core-only.
-/

namespace Zog
namespace Rx

inductive Re where
  | eps
  /-- character class as inclusive rune ranges -/
  | cls (rs : List (Nat × Nat))
  | cat (a b : Re)
  | alt (a b : Re)
  /-- `a{lo,hi}`; `hi = none`: unbounded -/
  | rep (a : Re) (lo : Nat) (hi : Option Nat)
  /-- `\b` -/
  | wordB
  /-- `^` and `$` without the multi-line flag: beginning / end of the text -/
  | bot
  | eot
deriving Repr

/-- a position: the previous character (none at the beginning of the text) and what is left -/
abbrev Pos := Option Char × List Char

def inRanges (rs : List (Nat × Nat)) (c : Char) : Bool := rs.any (fun r => r.1 ≤ c.toNat && c.toNat ≤ r.2)

/-- RE2's `\w`: ASCII letters, digits, underscore -/
def isWordChar (c : Char) : Bool := inRanges [(48, 57), (65, 90), (95, 95), (97, 122)] c

def atBoundary (p : Pos) : Bool :=
  (p.1.map isWordChar).getD false != (p.2.head?.map isWordChar).getD false

/-- between `lo` and `hi` iterations of `f` -/
def repN (f : Pos → List Pos) : Nat → Nat → Pos → List Pos
  | lo, 0, p => if lo = 0 then [p] else []
  | lo, hi + 1, p => (if lo = 0 then [p] else []) ++ (f p).flatMap (repN f (lo - 1) hi)

/-- every position a match of the expression starting at `p` can end at; an open repetition is run
    `lo` + (what is left) times at most, which is enough when every iteration consumes a character -/
def Re.run : Re → Pos → List Pos
  | .eps, p => [p]
  | .cls _, (_, []) => []
  | .cls rs, (_, x :: xs) => if inRanges rs x then [(some x, xs)] else []
  | .cat a b, p => (a.run p).flatMap b.run
  | .alt a b, p => a.run p ++ b.run p
  | .rep a lo hi, p => repN a.run lo (hi.getD (lo + p.2.length)) p
  | .wordB, p => if atBoundary p then [p] else []
  | .bot, p => if p.1.isNone then [p] else []
  | .eot, p => if p.2.isEmpty then [p] else []

def positions : Option Char → List Char → List Pos
  | prev, [] => [(prev, [])]
  | prev, c :: cs => (prev, c :: cs) :: positions (some c) cs

/-- `regexp.MatchString`: the expression matches somewhere in the text -/
def Re.search (r : Re) (cs : List Char) : Bool := (positions none cs).any (fun p => !(r.run p).isEmpty)

theorem run_cls_cons (rs : List (Nat × Nat)) (prev : Option Char) (x : Char) (xs : List Char) :
    (Re.cls rs).run (prev, x :: xs) = if inRanges rs x then [(some x, xs)] else [] := rfl

theorem run_wordB (p : Pos) : Re.wordB.run p = if atBoundary p then [p] else [] := rfl

theorem atBoundary_cons (c y : Char) (r : List Char) : atBoundary (some c, y :: r) = (isWordChar c != isWordChar y) := by
  simp only [atBoundary, Option.map_some, List.head?_cons, Option.getD_some]

theorem run_cat (a b : Re) : (Re.cat a b).run = fun p => (a.run p).flatMap b.run := rfl

theorem run_rep (a : Re) (lo : Nat) (hi : Option Nat) (p : Pos) :
    (Re.rep a lo hi).run p = repN a.run lo (hi.getD (lo + p.2.length)) p := rfl

/-- an assertion (`\b`, `^`, `$` all run as `if c then [p] else []`) in front of `g` -/
theorem guard_flatMap (c : Bool) (p : Pos) (g : Pos → List Pos) :
    (if c then [p] else []).flatMap g = if c then g p else [] := by
  cases c
  · rfl
  · exact List.flatMap_singleton ..

theorem cat_eot_nonempty (a : Re) (p : Pos) : (!((Re.cat a .eot).run p).isEmpty) = (a.run p).any (·.2.isEmpty) := by
  show (!((a.run p).flatMap fun q => if q.2.isEmpty then [q] else []).isEmpty) = _
  induction a.run p with
  | nil => rfl
  | cons q l ih =>
    rw [List.flatMap_cons, List.any_cons, ← ih]
    cases q.2.isEmpty <;> rfl

theorem positions_some (c : Char) (cs : List Char) : ∀ p ∈ positions (some c) cs, p.1.isNone = false := by
  induction cs generalizing c with
  | nil => exact List.forall_mem_singleton.mpr rfl
  | cons x xs ih => exact List.forall_mem_cons.mpr ⟨rfl, ih x⟩

/-- an expression that begins with `^` can only match at the beginning of the text -/
theorem search_bot (r : Re) (cs : List Char) : (Re.cat .bot r).search cs = !(r.run (none, cs)).isEmpty := by
  rw [Re.search, ← show (Re.cat .bot r).run (none, cs) = r.run (none, cs) from guard_flatMap true _ _]
  cases cs with
  | nil => exact Bool.or_false _
  | cons x xs =>
    refine (congrArg _ (List.any_eq_false.mpr fun p hp => ?_)).trans (Bool.or_false _)
    rw [show (Re.cat .bot r).run p = _ from guard_flatMap _ p _, positions_some x xs p hp]
    exact Bool.false_ne_true

/-! ## exactly `n` characters of a class -/

/-- consume exactly `n` characters satisfying `p` -/
def takeN (p : Char → Bool) : Nat → Pos → Option Pos
  | 0, pos => some pos
  | _ + 1, (_, []) => none
  | n + 1, (_, c :: cs) => if p c then takeN p n (some c, cs) else none

theorem takeN_length (p : Char → Bool) (n : Nat) : ∀ (pos q : Pos), takeN p n pos = some q → pos.2.length = n + q.2.length := by
  induction n with
  | zero => intro pos q h; cases h; exact (Nat.zero_add _).symm
  | succ n ih =>
    rintro ⟨_, _ | ⟨c, cs⟩⟩ q h
    · cases h
    · have : cs.length = n + q.2.length := ih _ q (Option.ite_none_right_eq_some.mp h).2
      exact (congrArg (· + 1) this).trans (Nat.add_right_comm ..)

/-- what `takeN` stops behind satisfies `p`, if it took anything or started behind such a character -/
theorem takeN_prev (p : Char → Bool) (n : Nat) : ∀ (pos q : Pos),
    takeN p n pos = some q → 0 < n ∨ pos.1.any p = true → q.1.any p = true := by
  induction n with
  | zero => intro pos q h hn; cases h; exact hn.resolve_left (Nat.lt_irrefl 0)
  | succ n ih =>
    rintro ⟨_, _ | ⟨c, cs⟩⟩ q h _
    · cases h
    · have ⟨hc, h⟩ := Option.ite_none_right_eq_some.mp h
      exact ih _ q h (.inr hc)

/-- `[class]{n}` takes exactly `n` characters of the class -/
theorem run_rep_cls_exact (rs : List (Nat × Nat)) (n : Nat) : ∀ pos : Pos,
    (Re.rep (.cls rs) n (some n)).run pos = (takeN (inRanges rs) n pos).toList := by
  induction n with
  | zero => intro pos; rfl
  | succ n ih =>
    rintro ⟨prev, _ | ⟨c, cs⟩⟩
    · rfl
    · show ((Re.cls rs).run (prev, c :: cs)).flatMap (Re.rep (.cls rs) n (some n)).run =
        (if inRanges rs c then takeN (inRanges rs) n (some c, cs) else none).toList
      rw [run_cls_cons, guard_flatMap, ih]
      cases inRanges rs c <;> rfl

deriving instance DecidableEq for Re

/-! ## `^ H{n1} \b - H{n2} \b - … H{nk} $` is the grammar "n1 hex, '-', n2 hex, '-', …, nk hex" -/

def hexRanges : List (Nat × Nat) := [(48, 57), (65, 70), (97, 102)]
def dashRanges : List (Nat × Nat) := [(45, 45)]

/-- `H{n1}\b-H{n2}\b-…H{nk}$` -/
def chainRe (cls : List (Nat × Nat)) : List Nat → Re
  | [] => .eot
  | [n] => .cat (.rep (.cls cls) n (some n)) .eot
  | n :: m :: ns => .cat (.rep (.cls cls) n (some n)) (.cat .wordB (.cat (.cls dashRanges) (chainRe cls (m :: ns))))

/-- the grammar: `n1` characters of the class, a dash, `n2` characters, …, end of text -/
def segs (p : Char → Bool) : List Nat → Pos → Bool
  | [], pos => pos.2.isEmpty
  | [n], pos => match takeN p n pos with
    | some (_, []) => true
    | _ => false
  | n :: m :: ns, pos => match takeN p n pos with
    | some (_, '-' :: r) => segs p (m :: ns) (some '-', r)
    | _ => false

theorem segs_single (p : Char → Bool) (n : Nat) (pos : Pos) :
    segs p [n] pos = match takeN p n pos with
      | some (_, []) => true
      | _ => false := rfl

theorem segs_cons_cons (p : Char → Bool) (n m : Nat) (ns : List Nat) (pos : Pos) :
    segs p (n :: m :: ns) pos = match takeN p n pos with
      | some (_, '-' :: r) => segs p (m :: ns) (some '-', r)
      | _ => false := rfl

theorem segs_length (p : Char → Bool) (ns : List Nat) (pos : Pos) (h : segs p ns pos = true) :
    pos.2.length = ns.sum + (ns.length - 1) := by
  induction ns generalizing pos with
  | nil => exact List.length_eq_zero_iff.mpr (List.isEmpty_iff.mp h)
  | cons n ns ih =>
    cases ns with
    | nil =>
      rw [segs_single] at h
      split at h
      next ht => exact takeN_length p n pos _ ht
      next => cases h
    | cons m ns =>
      rw [segs_cons_cons] at h
      split at h
      next pv r ht =>
        calc pos.2.length
            = n + (r.length + 1) := takeN_length p n pos _ ht
          _ = n + ((m :: ns).sum + (ns.length + 1)) := congrArg (fun k => n + (k + 1)) (ih _ h)
          _ = _ := (Nat.add_assoc ..).symm
      next => cases h

theorem inRanges_single (n : Nat) (ch : Char) (hch : ch.toNat = n) (c : Char) : inRanges [(n, n)] c = true ↔ c = ch := by
  simp only [inRanges, List.any_cons, List.any_nil, Bool.or_false, Bool.and_eq_true, decide_eq_true_eq, ← Char.toNat_inj, hch]
  exact and_comm.trans Nat.le_antisymm_iff.symm

/-- ranges that each lie within a range of `rs'` describe a subclass of `rs'` -/
theorem inRanges_subset {rs rs' : List (Nat × Nat)} (h : rs.all (fun r => rs'.any fun r' => r'.1 ≤ r.1 && r.2 ≤ r'.2) = true)
    (c : Char) (hc : inRanges rs c = true) : inRanges rs' c = true := by
  obtain ⟨r, hr, hrc⟩ := List.any_eq_true.mp hc
  obtain ⟨r', hr', hrr⟩ := List.any_eq_true.mp (List.all_eq_true.mp h r hr)
  refine List.any_eq_true.mpr ⟨r', hr', ?_⟩
  simp only [Bool.and_eq_true, decide_eq_true_eq] at hrc hrr ⊢
  exact ⟨Nat.le_trans hrr.1 hrc.1, Nat.le_trans hrc.2 hrr.2⟩

theorem hex_is_word (c : Char) (h : inRanges hexRanges c = true) : isWordChar c = true :=
  inRanges_subset (by decide) c h

/-- `\b[class]` behind a character and in front of another -/
theorem run_wordB_cls (rs : List (Nat × Nat)) (x : Re) (c y : Char) (r : List Char) :
    (Re.cat .wordB (.cat (.cls rs) x)).run (some c, y :: r) =
      if (isWordChar c != isWordChar y) && inRanges rs y then x.run (some y, r) else [] := by
  simp only [run_cat, run_wordB, run_cls_cons, guard_flatMap, atBoundary_cons]
  cases (isWordChar c != isWordChar y) <;> cases inRanges rs y <;> rfl

/-- the chain expression matches from a position iff the grammar accepts from that position; the class
    has to consist of word characters for `\b` to hold in front of every dash -/
theorem chain_run (cls : List (Nat × Nat)) (hw : ∀ c, inRanges cls c = true → isWordChar c = true)
    (ns : List Nat) (hpos : ∀ n ∈ ns, 0 < n) (pos : Pos) :
    (!((chainRe cls ns).run pos).isEmpty) = segs (inRanges cls) ns pos := by
  induction ns generalizing pos with
  | nil => obtain ⟨_, cs⟩ := pos; cases cs <;> rfl
  | cons n ns ih =>
    cases ns with
    | nil =>
      rw [segs_single]
      refine (cat_eot_nonempty _ pos).trans ?_
      rw [run_rep_cls_exact]
      cases takeN (inRanges cls) n pos with
      | none => rfl
      | some q => obtain ⟨_, r⟩ := q; cases r <;> rfl
    | cons m ns =>
      rw [segs_cons_cons]
      show (!(((Re.rep (.cls cls) n (some n)).run pos).flatMap _).isEmpty) = _
      rw [run_rep_cls_exact]
      cases h : takeN (inRanges cls) n pos with
      | none => rfl
      | some q =>
        obtain ⟨c, hc, hcw⟩ := (Option.any_eq_true _ _).mp (takeN_prev _ n pos q h (.inl (hpos n List.mem_cons_self)))
        obtain ⟨pv, r⟩ := q
        cases hc
        rw [Option.toList_some, List.flatMap_singleton]
        -- behind the word character `c`, `\b-` passes a dash and nothing else
        cases r with
        | nil =>
          simp only [run_cat, run_wordB]
          cases atBoundary (some c, []) <;> rfl
        | cons y r =>
          rw [run_wordB_cls, hw c hcw]
          by_cases hy : y = '-'
          · subst hy
            exact ih (fun k hk => hpos k (List.mem_cons_of_mem _ hk)) _
          · have hd : inRanges dashRanges y = false := Bool.eq_false_iff.mpr fun h => hy ((inRanges_single 45 '-' rfl y).mp h)
            simp [hd, hy]

/-- the UUID grammar: 8-4-4-4-12 hexadecimal digits separated by dashes, nothing else -/
def uuidGrammar (cs : List Char) : Bool := segs (inRanges hexRanges) [8, 4, 4, 4, 12] (none, cs)

/-- **`^H{8}\b-H{4}\b-H{4}\b-H{4}\b-H{12}$` decides exactly the UUID grammar**, on every text -/
theorem uuid_regex_is_grammar (cs : List Char) :
    (Re.cat .bot (chainRe hexRanges [8, 4, 4, 4, 12])).search cs = uuidGrammar cs := by
  rw [search_bot, chain_run _ hex_is_word _ (by decide)]
  rfl

/-!
## Word semantics
For expressions without assertions (`\b`, `^`, `$`) a match does not depend on the context: the
positions `run` reaches are exactly those obtained by consuming a word of the expression's language.
-/

/-- concatenation of a list of words -/
def joinW : List (List Char) → List Char
  | [] => []
  | w :: ws => w ++ joinW ws

/-- the language of an assertion-free expression (assertions denote the empty language here;
    `NoAssert` excludes them) -/
def Wd : Re → List Char → Prop
  | .eps, w => w = []
  | .cls rs, w => ∃ x, w = [x] ∧ inRanges rs x = true
  | .cat a b, w => ∃ u v, w = u ++ v ∧ Wd a u ∧ Wd b v
  | .alt a b, w => Wd a w ∨ Wd b w
  | .rep a lo hi, w => ∃ ws : List (List Char), lo ≤ ws.length ∧ (∀ h, hi = some h → ws.length ≤ h) ∧
      w = joinW ws ∧ ∀ u ∈ ws, Wd a u
  | .wordB, _ => False
  | .bot, _ => False
  | .eot, _ => False

theorem wd_cls (rs : List (Nat × Nat)) (w : List Char) : Wd (.cls rs) w ↔ ∃ x, w = [x] ∧ inRanges rs x = true := Iff.rfl

theorem wd_cat (a b : Re) (w : List Char) : Wd (.cat a b) w ↔ ∃ u v, w = u ++ v ∧ Wd a u ∧ Wd b v := Iff.rfl

theorem wd_rep (a : Re) (lo : Nat) (hi : Option Nat) (w : List Char) :
    Wd (.rep a lo hi) w ↔ ∃ ws : List (List Char), lo ≤ ws.length ∧ (∀ h, hi = some h → ws.length ≤ h) ∧
      w = joinW ws ∧ ∀ u ∈ ws, Wd a u := Iff.rfl

/-- no assertion, and every repeated sub-expression consumes at least one character per iteration -/
def NoAssert : Re → Prop
  | .eps => True
  | .cls _ => True
  | .cat a b => NoAssert a ∧ NoAssert b
  | .alt a b => NoAssert a ∧ NoAssert b
  | .rep a _ _ => NoAssert a ∧ ∀ w, Wd a w → w ≠ []
  | .wordB => False
  | .bot => False
  | .eot => False

/-- `rest` is reachable from `cs` -/
def Reach (r : Re) (prev : Option Char) (cs rest : List Char) : Prop := ∃ pv, (pv, rest) ∈ r.run (prev, cs)

theorem joinW_length_ge (ws : List (List Char)) (h : ∀ u ∈ ws, u ≠ []) : ws.length ≤ (joinW ws).length := by
  induction ws with
  | nil => exact Nat.le_refl _
  | cons w ws ih =>
    obtain ⟨hw, hws⟩ := List.forall_mem_cons.mp h
    show ws.length + 1 ≤ (w ++ joinW ws).length
    rw [List.length_append, Nat.add_comm]
    exact Nat.add_le_add (List.length_pos_iff.mpr hw) (ih hws)

/-- `f` consumes the language `L`: from any position it reaches exactly the positions a word of `L` further on,
    whatever the previous character -/
def Consumes (f : Pos → List Pos) (L : List Char → Prop) : Prop :=
  ∀ prev cs rest, (∃ pv, (pv, rest) ∈ f (prev, cs)) ↔ ∃ w, cs = w ++ rest ∧ L w

theorem Consumes.congr {f : Pos → List Pos} {L L' : List Char → Prop} (h : Consumes f L) (hL : ∀ w, L w ↔ L' w) :
    Consumes f L' := by
  simpa only [Consumes, hL] using h

theorem consumes_guard (c : Prop) [Decidable c] : Consumes (fun p => if c then [p] else []) (fun w => c ∧ w = []) := by
  intro prev cs rest
  by_cases hc : c <;> simp [hc, eq_comm]

theorem consumes_cls (rs : List (Nat × Nat)) : Consumes (Re.cls rs).run (fun w => ∃ x, w = [x] ∧ inRanges rs x = true) := by
  rintro prev (_ | ⟨c, cs⟩) rest
  · constructor
    · rintro ⟨_, ⟨⟩⟩
    · rintro ⟨_, h, _, rfl, _⟩
      cases h
  · rw [run_cls_cons]
    constructor
    · rintro ⟨pv, h⟩
      split at h
      · cases List.mem_singleton.mp h
        exact ⟨[c], rfl, c, rfl, ‹_›⟩
      · cases h
    · rintro ⟨_, h, x, rfl, hx⟩
      cases h
      exact ⟨some c, by simp [hx]⟩

theorem Consumes.seq {f g : Pos → List Pos} {A B : List Char → Prop} (hf : Consumes f A) (hg : Consumes g B) :
    Consumes (fun p => (f p).flatMap g) (fun w => ∃ u v, w = u ++ v ∧ A u ∧ B v) := by
  intro prev cs rest
  simp only [List.mem_flatMap]
  constructor
  · rintro ⟨pv, ⟨mp, mid⟩, hm, hq⟩
    obtain ⟨u, rfl, hu⟩ := (hf prev cs mid).mp ⟨mp, hm⟩
    obtain ⟨v, rfl, hv⟩ := (hg mp mid rest).mp ⟨pv, hq⟩
    exact ⟨u ++ v, (List.append_assoc ..).symm, u, v, rfl, hu, hv⟩
  · rintro ⟨_, rfl, u, v, rfl, hu, hv⟩
    obtain ⟨mp, hm⟩ := (hf prev _ (v ++ rest)).mpr ⟨u, List.append_assoc .., hu⟩
    obtain ⟨pv, hq⟩ := (hg mp _ rest).mpr ⟨v, rfl, hv⟩
    exact ⟨pv, _, hm, hq⟩

theorem Consumes.alt {f g : Pos → List Pos} {A B : List Char → Prop} (hf : Consumes f A) (hg : Consumes g B) :
    Consumes (fun p => f p ++ g p) (fun w => A w ∨ B w) := by
  intro prev cs rest
  simp only [List.mem_append, exists_or, hf prev cs rest, hg prev cs rest, and_or_left]

theorem Consumes.repN {f : Pos → List Pos} {A : List Char → Prop} (hf : Consumes f A) (lo hi : Nat) :
    Consumes (repN f lo hi) (fun w => ∃ ws : List (List Char), lo ≤ ws.length ∧ ws.length ≤ hi ∧ w = joinW ws ∧ ∀ u ∈ ws, A u) := by
  induction hi generalizing lo with
  | zero =>
    refine (consumes_guard (lo = 0)).congr fun w => ?_
    constructor
    · rintro ⟨rfl, rfl⟩
      exact ⟨[], Nat.le_refl _, Nat.le_refl _, rfl, List.forall_mem_nil _⟩
    · rintro ⟨ws, h1, h2, rfl, _⟩
      cases List.length_eq_zero_iff.mp (Nat.le_zero.mp h2)
      exact ⟨Nat.le_zero.mp h1, rfl⟩
  | succ hi ih =>
    -- by definition `repN f lo (hi + 1) p = (if lo = 0 then [p] else []) ++ (f p).flatMap (repN f (lo - 1) hi)`
    refine ((consumes_guard (lo = 0)).alt (hf.seq (ih (lo - 1)))).congr fun w => ?_
    constructor
    · rintro (⟨rfl, rfl⟩ | ⟨u, _, rfl, hu, ws, h1, h2, rfl, hall⟩)
      · exact ⟨[], Nat.le_refl _, Nat.zero_le _, rfl, List.forall_mem_nil _⟩
      · exact ⟨u :: ws, Nat.sub_le_iff_le_add.mp h1, Nat.succ_le_succ h2, rfl, List.forall_mem_cons.mpr ⟨hu, hall⟩⟩
    · rintro ⟨ws, h1, h2, rfl, hall⟩
      cases ws with
      | nil => exact .inl ⟨Nat.le_zero.mp h1, rfl⟩
      | cons u ws =>
        obtain ⟨hu, hall⟩ := List.forall_mem_cons.mp hall
        exact .inr ⟨u, _, rfl, hu, ws, Nat.sub_le_iff_le_add.mpr h1, Nat.le_of_succ_le_succ h2, rfl, hall⟩

/-- the run of an assertion-free expression consumes its language -/
theorem consumes_run (r : Re) (hr : NoAssert r) : Consumes r.run (Wd r) := by
  induction r with
  | eps => exact (consumes_guard True).congr fun _ => and_iff_right trivial
  | cls rs => exact consumes_cls rs
  | cat a b iha ihb => exact (iha hr.1).seq (ihb hr.2)
  | alt a b iha ihb => exact (iha hr.1).alt (ihb hr.2)
  | rep a lo hi ih =>
    intro prev cs rest
    rw [run_rep, (ih hr.1).repN lo _ prev cs rest]
    simp only [wd_rep]
    constructor
    · rintro ⟨_, rfl, ws, h1, h2, rfl, hall⟩
      exact ⟨joinW ws, rfl, ws, h1, fun h hh => by subst hh; exact h2, rfl, hall⟩
    · rintro ⟨_, rfl, ws, h1, h2, rfl, hall⟩
      refine ⟨_, rfl, ws, h1, ?_, rfl, hall⟩
      cases hi with
      | some h => exact h2 h rfl
      | none =>
        -- `run` bounds an open repetition by `lo` + what is left: enough, as every iteration consumes a character
        have := joinW_length_ge ws fun u hu => hr.2 u (hall u hu)
        simp only [Option.getD_none, List.length_append]
        exact Nat.le_trans this (Nat.le_trans (Nat.le_add_right ..) (Nat.le_add_left ..))
  | wordB | bot | eot => exact hr.elim

/-- **Reaching is consuming a word of the language.** -/
theorem reach_iff_word : ∀ (r : Re), NoAssert r → ∀ (prev : Option Char) (cs rest : List Char),
    (Reach r prev cs rest ↔ ∃ w, cs = w ++ rest ∧ Wd r w) :=
  consumes_run

/-! ## anchored expressions: `^ body $` -/

/-- `^ body $` matches a text iff the whole text is a word of `body` -/
theorem anchored_search (body : Re) (hb : NoAssert body) (cs : List Char) :
    (Re.cat .bot (.cat body .eot)).search cs = true ↔ Wd body cs := by
  have : (body.run (none, cs)).any (·.2.isEmpty) = true ↔ Reach body none cs [] := by
    simp only [Reach, List.any_eq_true, Prod.exists, List.isEmpty_iff, exists_eq_right]
  rw [search_bot, cat_eot_nonempty, this, reach_iff_word body hb]
  simp

/-! ## languages of the building blocks -/

theorem joinW_singletons (w : List Char) : joinW (w.map (fun c => [c])) = w := by
  induction w with
  | nil => rfl
  | cons c cs ih => exact congrArg (c :: ·) ih

theorem forall_mem_iff_exists_map {α β : Type} (f : β → α) (P : β → Prop) (ws : List α) :
    (∀ u ∈ ws, ∃ l, u = f l ∧ P l) ↔ ∃ ls : List β, ws = ls.map f ∧ ∀ l ∈ ls, P l := by
  induction ws with
  | nil => exact ⟨fun _ => ⟨[], rfl, List.forall_mem_nil _⟩, fun _ => List.forall_mem_nil _⟩
  | cons u ws ih =>
    rw [List.forall_mem_cons, ih]
    constructor
    · rintro ⟨⟨l, rfl, hl⟩, ls, rfl, hls⟩
      exact ⟨l :: ls, rfl, List.forall_mem_cons.mpr ⟨hl, hls⟩⟩
    · rintro ⟨_ | ⟨l, ls⟩, e, hls⟩
      · cases e
      · cases e
        exact ⟨⟨l, rfl, hls l List.mem_cons_self⟩, ls, rfl, fun l' hl' => hls l' (List.mem_cons_of_mem _ hl')⟩

/-- `[class]{lo,hi}`: between `lo` and `hi` characters of the class -/
theorem wd_rep_cls (rs : List (Nat × Nat)) (lo : Nat) (hi : Option Nat) (w : List Char) :
    Wd (.rep (.cls rs) lo hi) w ↔ lo ≤ w.length ∧ (∀ h, hi = some h → w.length ≤ h) ∧ ∀ c ∈ w, inRanges rs c = true := by
  simp only [wd_rep, wd_cls, forall_mem_iff_exists_map]
  constructor
  · rintro ⟨_, h1, h2, rfl, cs, rfl, hall⟩
    rw [joinW_singletons]
    rw [List.length_map] at h1 h2
    exact ⟨h1, h2, hall⟩
  · rintro ⟨h1, h2, hall⟩
    exact ⟨w.map (fun c => [c]), by rwa [List.length_map], by rwa [List.length_map], (joinW_singletons w).symm, w, rfl, hall⟩

/-- `(x)?` -/
theorem wd_opt (a : Re) (w : List Char) : Wd (.rep a 0 (some 1)) w ↔ w = [] ∨ Wd a w := by
  rw [wd_rep]
  constructor
  · rintro ⟨ws, _, h2, rfl, hall⟩
    cases ws with
    | nil => exact .inl rfl
    | cons u ws =>
      cases List.length_eq_zero_iff.mp (Nat.le_zero.mp (Nat.le_of_succ_le_succ (h2 1 rfl)))
      rw [show joinW [u] = u from List.append_nil u]
      exact .inr (hall u List.mem_cons_self)
  · rintro (rfl | h)
    · exact ⟨[], Nat.le_refl _, fun _ _ => Nat.zero_le _, rfl, List.forall_mem_nil _⟩
    · exact ⟨[w], Nat.zero_le _, fun _ hh => by cases hh; exact Nat.le_refl _, (List.append_nil w).symm,
        fun u hu => List.mem_singleton.mp hu ▸ h⟩

/-- `(x)*` -/
theorem wd_star (a : Re) (w : List Char) : Wd (.rep a 0 none) w ↔ ∃ ws, w = joinW ws ∧ ∀ u ∈ ws, Wd a u := by
  rw [wd_rep]
  constructor
  · rintro ⟨ws, _, _, rfl, hall⟩; exact ⟨ws, rfl, hall⟩
  · rintro ⟨ws, rfl, hall⟩; exact ⟨ws, Nat.zero_le _, nofun, rfl, hall⟩

/-! ## the e-mail pattern -/

def localRanges : List (Nat × Nat) := [(33, 33), (35, 39), (42, 43), (45, 57), (61, 61), (63, 63), (65, 90), (94, 126)]
def alnumRanges : List (Nat × Nat) := [(48, 57), (65, 90), (97, 122)]
def midRanges : List (Nat × Nat) := [(45, 45), (48, 57), (65, 90), (97, 122)]
def atRanges : List (Nat × Nat) := [(64, 64)]
def dotRanges : List (Nat × Nat) := [(46, 46)]

/-- `(?:[a-zA-Z0-9-]{0,61}[a-zA-Z0-9])?` -/
def optTail : Re := .rep (.cat (.rep (.cls midRanges) 0 (some 61)) (.cls alnumRanges)) 0 (some 1)
/-- `(?:\.[a-zA-Z0-9](?:…)?)*` -/
def dotLabels : Re := .rep (.cat (.cls dotRanges) (.cat (.cls alnumRanges) optTail)) 0 none
def emailBody : Re :=
  .cat (.rep (.cls localRanges) 1 none) (.cat (.cls atRanges) (.cat (.cat (.cls alnumRanges) optTail) dotLabels))
/-- the pattern as `regexp/syntax` parses it (a flat concatenation ending in `$`) -/
def emailRe : Re :=
  .cat .bot (.cat (.rep (.cls localRanges) 1 none) (.cat (.cls atRanges) (.cat (.cls alnumRanges) (.cat optTail (.cat dotLabels .eot)))))

/-- a DNS-like label: a letter or digit, optionally followed by up to 61 letters, digits or hyphens
    and a final letter or digit (1 to 63 characters, no hyphen at either end) -/
def IsLabel (l : List Char) : Prop :=
  ∃ a tail, l = a :: tail ∧ inRanges alnumRanges a = true ∧
    (tail = [] ∨ ∃ mid b, tail = mid ++ [b] ∧ mid.length ≤ 61 ∧ (∀ c ∈ mid, inRanges midRanges c = true) ∧ inRanges alnumRanges b = true)

/-- the stated grammar: a non-empty local part of permitted characters, `@`, a label, and any number
    of further labels each preceded by a dot — nothing before, nothing after -/
def IsEmail (cs : List Char) : Prop :=
  ∃ (loc l0 : List Char) (ls : List (List Char)),
    cs = loc ++ '@' :: (l0 ++ joinW (ls.map (fun l => '.' :: l))) ∧
    1 ≤ loc.length ∧ (∀ c ∈ loc, inRanges localRanges c = true) ∧ IsLabel l0 ∧ ∀ l ∈ ls, IsLabel l

theorem wd_cls_cat (rs : List (Nat × Nat)) (a : Re) (w : List Char) :
    Wd (.cat (.cls rs) a) w ↔ ∃ x v, w = x :: v ∧ inRanges rs x = true ∧ Wd a v := by
  constructor
  · rintro ⟨_, v, rfl, ⟨x, rfl, hx⟩, hv⟩; exact ⟨x, v, rfl, hx, hv⟩
  · rintro ⟨x, v, rfl, hx, hv⟩; exact ⟨[x], v, rfl, ⟨x, rfl, hx⟩, hv⟩

theorem wd_single_cat (n : Nat) (ch : Char) (hch : ch.toNat = n) (a : Re) (w : List Char) :
    Wd (.cat (.cls [(n, n)]) a) w ↔ ∃ v, w = ch :: v ∧ Wd a v := by
  simp only [wd_cls_cat, inRanges_single n ch hch]
  constructor
  · rintro ⟨_, v, rfl, rfl, hv⟩; exact ⟨v, rfl, hv⟩
  · rintro ⟨v, rfl, hv⟩; exact ⟨ch, v, rfl, rfl, hv⟩

theorem wd_optTail (w : List Char) :
    Wd optTail w ↔ (w = [] ∨ ∃ mid b, w = mid ++ [b] ∧ mid.length ≤ 61 ∧ (∀ c ∈ mid, inRanges midRanges c = true) ∧ inRanges alnumRanges b = true) := by
  rw [optTail, wd_opt]
  refine or_congr_right ?_
  simp only [wd_cat, wd_rep_cls, wd_cls]
  constructor
  · rintro ⟨mid, _, rfl, ⟨_, h2, h3⟩, b, rfl, hb⟩
    exact ⟨mid, b, rfl, h2 61 rfl, h3, hb⟩
  · rintro ⟨mid, b, rfl, h1, h2, h3⟩
    exact ⟨mid, [b], rfl, ⟨Nat.zero_le _, fun _ hh => by cases hh; exact h1, h2⟩, b, rfl, h3⟩

theorem wd_label (l : List Char) : Wd (.cat (.cls alnumRanges) optTail) l ↔ IsLabel l := by
  simp only [wd_cls_cat, wd_optTail, IsLabel]

theorem wd_dotLabels (w : List Char) :
    Wd dotLabels w ↔ ∃ ls : List (List Char), w = joinW (ls.map (fun l => '.' :: l)) ∧ ∀ l ∈ ls, IsLabel l := by
  simp only [dotLabels, dotRanges, wd_star, wd_single_cat 46 '.' rfl, wd_label, forall_mem_iff_exists_map]
  constructor
  · rintro ⟨_, rfl, ls, rfl, hls⟩; exact ⟨ls, rfl, hls⟩
  · rintro ⟨ls, rfl, hls⟩; exact ⟨_, rfl, ls, rfl, hls⟩

/-- the language of the pattern's body is the stated grammar -/
theorem wd_emailBody (cs : List Char) : Wd emailBody cs ↔ IsEmail cs := by
  rw [emailBody, wd_cat, IsEmail]
  simp only [atRanges, wd_single_cat 64 '@' rfl, wd_cat _ dotLabels, wd_label, wd_dotLabels, wd_rep_cls]
  constructor
  · rintro ⟨loc, _, rfl, ⟨h1, _, h3⟩, _, rfl, l0, _, rfl, hl0, ls, rfl, hls⟩
    exact ⟨loc, l0, ls, rfl, h1, h3, hl0, hls⟩
  · rintro ⟨loc, l0, ls, rfl, h1, h3, hl0, hls⟩
    exact ⟨loc, _, rfl, ⟨h1, nofun, h3⟩, _, rfl, l0, _, rfl, hl0, ls, rfl, hls⟩

theorem wd_cls_ne (rs : List (Nat × Nat)) (w : List Char) (h : Wd (.cls rs) w) : w ≠ [] := by
  obtain ⟨x, rfl, _⟩ := h; exact List.cons_ne_nil _ _

theorem wd_cat_ne (a b : Re) (h : (∀ u, Wd a u → u ≠ []) ∨ (∀ v, Wd b v → v ≠ [])) (w : List Char) :
    Wd (.cat a b) w → w ≠ [] := by
  rintro ⟨u, v, rfl, hu, hv⟩ e
  obtain ⟨rfl, rfl⟩ := List.append_eq_nil_iff.mp e
  exact h.elim (· _ hu rfl) (· _ hv rfl)

theorem noAssert_optTail : NoAssert optTail :=
  ⟨⟨⟨trivial, wd_cls_ne _⟩, trivial⟩, wd_cat_ne _ _ (.inr (wd_cls_ne _))⟩

theorem noAssert_emailBody : NoAssert emailBody :=
  ⟨⟨trivial, wd_cls_ne _⟩, trivial, ⟨trivial, noAssert_optTail⟩, ⟨trivial, trivial, noAssert_optTail⟩,
    wd_cat_ne _ _ (.inl (wd_cls_ne _))⟩

/-- **The shipped e-mail pattern decides exactly the stated grammar**, on every text. -/
theorem email_regex_is_grammar (cs : List Char) : emailRe.search cs = true ↔ IsEmail cs := by
  -- the parser's flat concatenation ending in `$` runs like `^ emailBody $`
  have e : emailRe.run = (Re.cat .bot (.cat emailBody .eot)).run := by
    simp only [emailRe, emailBody, run_cat, List.flatMap_assoc]
  rw [← wd_emailBody, ← anchored_search emailBody noAssert_emailBody]
  simp only [Re.search, e]

end Rx
end Zog
