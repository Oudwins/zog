import Zog.Spec
import Zog.Struct

/-!
# The equations of `Spec`
What the test and PostTransform loops report and log; the PostTransform block behind a body
(`gatePosts`); a primitive body by its three cases (`primBody_cases`); `proc` one constructor at a
time, with a slice body by the source of its elements (`sliceBody_eq`) and a struct body by its
provider (`structBody_eq`); the visit order is a permutation of the keys (`orderOf_perm`).
Everything later reasons about the traversal through these and never unfolds `proc`.
-/

namespace Zog
namespace Spec

def failing (tests : List Test) (x : DVal) : List Test := tests.filter (fun t => !t.pred x)

theorem failing_eq_nil (tests : List Test) (x : DVal) : failing tests x = [] ↔ tests.all (fun t => t.pred x) = true := by
  simp [failing]

@[simp] theorem emit_sink (st : St) (i : Issue) : (emit st i).sink = st.sink ++ [i] := rfl
@[simp] theorem emit_log (st : St) (i : Issue) : (emit st i).log = st.log := rfl
@[simp] theorem logIf_sink (c : Bool) (st : St) (e : Event) : (logIf c st e).sink = st.sink := by
  unfold logIf; split <;> rfl

/-- a non-catching node reports every failing test, once, in declaration order, and nothing else -/
theorem testAll_sink (env : Env) (dt ps : String) (tests : List Test) (x : DVal) (st : St) :
    (testAll env dt ps tests x st).sink = st.sink ++ (failing tests x).map (issueOfTest env ps dt) := by
  induction tests generalizing st with
  | nil => simp [testAll, failing]
  | cons t ts ih =>
    unfold testAll
    rw [ih]
    by_cases hp : t.pred x = true
    · simp [hp, failing]
    · simp [hp, failing, List.append_assoc]

/-- every test of a non-catching node runs (each callback is logged), in order -/
theorem testAll_log (env : Env) (dt ps : String) (tests : List Test) (x : DVal) (st : St) :
    (testAll env dt ps tests x st).log =
      st.log ++ (tests.filter (·.cb)).map (fun t => (⟨.test, t.id, ps, x⟩ : Event)) := by
  induction tests generalizing st with
  | nil => simp [testAll]
  | cons t ts ih =>
    unfold testAll
    rw [ih]
    by_cases hp : t.pred x = true <;> by_cases hc : t.cb = true <;> simp [hp, hc, logIf, List.append_assoc]

theorem testCatch_sink (ps : String) (c : DVal) (tests : List Test) (x : DVal) (st : St) :
    (testCatch ps c tests x st).2.sink = st.sink := by
  induction tests generalizing st with
  | nil => rfl
  | cons t ts ih =>
    unfold testCatch
    by_cases hp : t.pred x = true
    · simp only [hp, ↓reduceIte]; rw [ih]; simp
    · simp [hp]

theorem testCatch_dest (ps : String) (c : DVal) (tests : List Test) (x : DVal) (st : St) :
    (testCatch ps c tests x st).1 = if tests.all (fun t => t.pred x) then x else c := by
  induction tests generalizing st with
  | nil => rfl
  | cons t ts ih =>
    unfold testCatch
    by_cases hp : t.pred x = true
    · simp only [hp, ↓reduceIte]; rw [ih]; simp [hp]
    · simp [hp]

/-- PostTransforms leave earlier issues in place and add at most one -/
theorem postLoop_sink_prefix (env : Env) (dt ps : String) (posts : List Post) (x : DVal) (st : St) :
    ∃ extra, (postLoop env dt ps posts x st).2.sink = st.sink ++ extra ∧ extra.length ≤ 1 := by
  induction posts generalizing x st with
  | nil => exact ⟨[], by simp [postLoop]⟩
  | cons p ps' ih =>
    unfold postLoop
    cases hr : p.run x with
    | mk x' e =>
      cases e with
      | none =>
        obtain ⟨extra, h1, h2⟩ := ih x' { st with log := st.log ++ [⟨.post, p.id, ps, x⟩] }
        exact ⟨extra, by simpa using h1, h2⟩
      | some e => exact ⟨[issueOfPostErr env ps dt e], by simp, by simp⟩

/-- the PostTransform block behind a node body that returned `a`: run only while no issue has been filed -/
def gatePosts (env : Env) (dt ps : String) (posts : List Post) (a : DVal) (st : St) : Out :=
  if st.sink.isEmpty then postLoop env dt ps posts a st else (a, st)

theorem runPosts_eq (env : Env) (dt ps : String) (posts : List Post) (o : Out) :
    runPosts env dt ps posts o = gatePosts env dt ps posts o.1 o.2 := rfl

theorem runPosts_of_nonempty (env : Env) (dt ps : String) (posts : List Post) (o : Out)
    (h : o.2.sink ≠ []) : runPosts env dt ps posts o = o := by
  unfold runPosts
  exact if_neg (mt List.isEmpty_iff.mp h)

theorem runPosts_nil (env : Env) (dt ps : String) (o : Out) : runPosts env dt ps [] o = o := by
  unfold runPosts postLoop; split <;> rfl

/-- a primitive body by what becomes of the value: it is tested (the Default of an absent node, the
    coerced input in Parse, the destination in Validate), the node is skipped (absent and optional),
    or it fails (absent and required, or not coercible) and then holds its Catch value if it has one.
    The motive ranges over state functions, so that one case split serves every property of the node. -/
theorem primBody_cases {motive : (St → Out) → Prop} (env : Env) (m : Mode) (p : Prim) (path : List String) (v : Val) (d : DVal)
    (value : ∀ x, (Engine.primAbsent m v d = true ∧ p.dflt = some x) ∨
        (Engine.primAbsent m v d = false ∧ match m with | .validate => x = d | .parse => p.coerce v = some x) →
      motive (fun st => tested env p.kind.dtype (render path) p.ctch p.tests x st))
    (skipped : Engine.primAbsent m v d = true → p.dflt = none → p.required = none → motive (fun st => (d, st)))
    (failed : ∀ i, (Engine.primAbsent m v d = true ∧ p.dflt = none ∧ ∃ r, p.required = some r ∧ i = issueOfTest env (render path) p.kind.dtype r) ∨
        (Engine.primAbsent m v d = false ∧ m = .parse ∧ p.coerce v = none ∧ i = coerceIssue env (render path) p.kind.dtype) →
      motive (fun st => match p.ctch with | some c => (c, st) | none => (d, emit st i))) :
    motive (fun st => primBody env m p path v d st) := by
  unfold primBody
  cases ha : Engine.primAbsent m v d <;> simp only [Bool.false_eq_true, ↓reduceIte]
  · cases m <;> simp only
    · cases hco : p.coerce v with
      | none => exact failed _ (.inr ⟨ha, rfl, hco, rfl⟩)
      | some x => exact value x (.inr ⟨ha, hco⟩)
    · exact value d (.inr ⟨ha, rfl⟩)
  · cases hd : p.dflt with
    | some x => exact value x (.inl ⟨ha, hd⟩)
    | none =>
      cases hr : p.required with
      | none => exact skipped ha hd hr
      | some r => exact failed _ (.inl ⟨ha, hd, r, hr, rfl⟩)

open Engine (Prov provOf orderOf zipIdx3)

theorem proc_prim (env : Env) (m : Mode) (p : Prim) (tag : Option String) (path : List String) (v : Val) (d : DVal) (st : St) :
    proc env m (.prim p) tag path v d st = prim env m p path v d st := rfl

theorem proc_ptr (env : Env) (m : Mode) (elem : Schema) (zp : DVal) (nn : Option Test) (tag : Option String)
    (path : List String) (v : Val) (d : DVal) (st : St) :
    proc env m (.ptr elem zp nn) tag path v d st =
      if Engine.ptrAbsent m v d then
        match nn with
        | some t => (d, emit st (issueOfTest env (render path) elem.dtype t))
        | none => (d, st)
      else (.ptr (some (proc env m elem tag path v (d.pointee zp) st).1), (proc env m elem tag path v (d.pointee zp) st).2) := rfl

/-- a `Custom[T]` node on the value it accepted: the function is called, a failure is reported -/
def customRun (env : Env) (c : CustomSpec) (ps : String) (x : DVal) (st : St) : Out :=
  if c.test.pred x then (x, { st with log := st.log ++ [⟨.custom, c.test.id, ps, x⟩] })
  else (x, emit { st with log := st.log ++ [⟨.custom, c.test.id, ps, x⟩] } (issueOfTest env ps "custom" c.test))

theorem proc_custom (env : Env) (m : Mode) (c : CustomSpec) (tag : Option String) (path : List String) (v : Val) (d : DVal) (st : St) :
    proc env m (.custom c) tag path v d st =
      match m with
      | .validate => customRun env c (render path) d st
      | .parse =>
        match c.accept v with
        | none => (d, emit st (coerceIssue env (render path) "custom"))
        | some x => customRun env c (render path) x st := rfl

theorem proc_pre (env : Env) (m : Mode) (ps : PreSpec) (inner : Schema) (tag : Option String) (path : List String)
    (v : Val) (d : DVal) (st : St) :
    proc env m (.pre ps inner) tag path v d st =
      match m with
      | .parse =>
        if ps.accept v then
          match ps.run v with
          | (_, some e) =>
            (d, emit { st with log := st.log ++ [⟨.pre, ps.id, render path, .custom v⟩] } (issueOfPostErr env (render path) inner.dtype e))
          | (v', none) => proc env m inner tag path v' d { st with log := st.log ++ [⟨.pre, ps.id, render path, .custom v⟩] }
        else (d, emit st (coerceIssue env (render path) inner.dtype))
      | .validate =>
        match ps.runD d with
        | (_, some msg) =>
          (d, emit { st with log := st.log ++ [⟨.pre, ps.id, render path, d⟩] } (preErrIssue env (render path) inner.dtype msg))
        | (d', none) => proc env m inner tag path v d' { st with log := st.log ++ [⟨.pre, ps.id, render path, d⟩] } := rfl

inductive SliceSrc where
  /-- absent, no default, optional: the node is skipped -/
  | skipped
  /-- absent and required, or not coercible: one issue -/
  | failed
  | items (ins : List Val) (ds : List DVal)

/-- where a slice node takes its elements from -/
def sliceSrc (m : Mode) (sm : SliceMods) (v : Val) (d : DVal) : SliceSrc :=
  match m with
  | .parse =>
    if isParseZero v then
      match sm.dfltIn with
      | some xs => .items xs (xs.map (fun _ => sm.zeroElem))
      | none => if sm.required.isSome then .failed else .skipped
    else
      match sm.coerce v with
      | none => .failed
      | some xs => .items xs (xs.map (fun _ => sm.zeroElem))
  | .validate =>
    if d.elems.isEmpty then
      match sm.dfltD with
      | some ds => .items (ds.map (fun _ => Val.nil)) ds
      | none => if sm.required.isSome then .failed else .skipped
    else .items (d.elems.map (fun _ => Val.nil)) d.elems

/-- the items branch of a slice body -/
def sliceItems (env : Env) (m : Mode) (elem : Schema) (sm : SliceMods) (path : List String) (ins : List Val) (ds : List DVal) (st : St) : Out :=
  let r := sliceLoop (proc env m elem none) path (zipIdx3 ins ds 0) [] st
  (DVal.slice r.1, testAll env "slice" (render path) sm.tests (DVal.slice r.1) r.2)

/-- the body of a slice node (everything before its own PostTransforms) -/
def sliceBody (env : Env) (m : Mode) (elem : Schema) (sm : SliceMods) (path : List String) (v : Val) (d : DVal) (st : St) : Out :=
  let ps := render path
  let src : Sum Out (List Val × List DVal) :=
    match m with
    | .parse =>
      if isParseZero v then
        match sm.dfltIn with
        | some xs => .inr (xs, xs.map (fun _ => sm.zeroElem))
        | none =>
          match sm.required with
          | none => .inl (d, st)
          | some r => .inl (d, emit st (issueOfTest env ps "slice" r))
      else
        match sm.coerce v with
        | none => .inl (d, emit st (coerceIssue env ps "slice"))
        | some xs => .inr (xs, xs.map (fun _ => sm.zeroElem))
    | .validate =>
      let cur := d.elems
      if cur.isEmpty then
        match sm.dfltD with
        | some ds => .inr (ds.map (fun _ => Val.nil), ds)
        | none =>
          match sm.required with
          | none => .inl (d, st)
          | some r => .inl (d, emit st (issueOfTest env ps "slice" r))
      else .inr (cur.map (fun _ => Val.nil), cur)
  match src with
  | .inl o => o
  | .inr (ins, ds) =>
    let r := sliceLoop (proc env m elem none) path (zipIdx3 ins ds 0) [] st
    let dest := DVal.slice r.1
    (dest, testAll env "slice" ps sm.tests dest r.2)

theorem proc_slice_eq (env : Env) (m : Mode) (elem : Schema) (sm : SliceMods) (tag : Option String) (path : List String)
    (v : Val) (d : DVal) (st : St) :
    proc env m (.slice elem sm) tag path v d st =
      runPosts env "slice" (render path) sm.posts (sliceBody env m elem sm path v d st) := rfl

/-- the one issue of a slice node whose source is `.failed`: its Required test when the value is
    absent, a coercion issue when a present value is not a list (the last branch is never reached: an
    absent value fails only under a Required test) -/
def sliceFail (env : Env) (m : Mode) (sm : SliceMods) (ps : String) (v : Val) : Issue :=
  if m = .parse ∧ isParseZero v = false then coerceIssue env ps "slice"
  else match sm.required with
    | some r => issueOfTest env ps "slice" r
    | none => coerceIssue env ps "slice"

theorem sliceBody_eq (env : Env) (m : Mode) (elem : Schema) (sm : SliceMods) (path : List String) (v : Val) (d : DVal) (st : St) :
    sliceBody env m elem sm path v d st =
      match sliceSrc m sm v d with
      | .skipped => (d, st)
      | .failed => (d, emit st (sliceFail env m sm (render path) v))
      | .items ins ds => sliceItems env m elem sm path ins ds st := by
  unfold sliceBody sliceSrc sliceFail sliceItems
  cases m
  · cases isParseZero v
    · cases sm.coerce v <;> cases sm.required <;> rfl
    · cases sm.dfltIn <;> cases sm.required <;> rfl
  · -- `d.elems.isEmpty` is tested through a `let`: split the list itself
    cases d.elems with
    | cons _ _ => rfl
    | nil => cases sm.dfltD <;> cases sm.required <;> rfl

def fieldKeyOf (m : Mode) (tag : Option String) (prov : Prov) (fm : FieldMeta) (k : String) : String :=
  match m with
  | .parse => prov.keyFor tag fm k
  | .validate => Engine.keyFor none fm k

def fieldInput (m : Mode) (prov : Prov) (fieldKey : String) : Val :=
  match m with
  | .parse => prov.get fieldKey
  | .validate => Val.nil

theorem procKey_nil (env : Env) (m : Mode) (key : String) (tag : Option String) (prov : Prov) (path : List String) (d : DVal) (st : St) :
    procKey env m .nil key tag prov path d st = (d, st) := rfl

theorem procKey_cons (env : Env) (m : Mode) (k : String) (fm : FieldMeta) (s : Schema) (rest : Fields) (key : String)
    (tag : Option String) (prov : Prov) (path : List String) (d : DVal) (st : St) :
    procKey env m (.cons k fm s rest) key tag prov path d st =
      if k == key then
        (d.set fm.goName (proc env m s none (path ++ [fieldKeyOf m tag prov fm k]) (fieldInput m prov (fieldKeyOf m tag prov fm k)) (d.get fm.goName) st).1,
         (proc env m s none (path ++ [fieldKeyOf m tag prov fm k]) (fieldInput m prov (fieldKeyOf m tag prov fm k)) (d.get fm.goName) st).2)
      else procKey env m rest key tag prov path d st := by
  cases m <;> rfl

theorem procKey_find (env : Env) (m : Mode) (key : String) (tag : Option String) (prov : Prov) (path : List String) (d : DVal) (st : St) :
    ∀ fs : Fields, procKey env m fs key tag prov path d st =
      match fs.find key with
      | none => (d, st)
      | some (k, fm, s) =>
        (d.set fm.goName (proc env m s none (path ++ [fieldKeyOf m tag prov fm k]) (fieldInput m prov (fieldKeyOf m tag prov fm k)) (d.get fm.goName) st).1,
         (proc env m s none (path ++ [fieldKeyOf m tag prov fm k]) (fieldInput m prov (fieldKeyOf m tag prov fm k)) (d.get fm.goName) st).2)
  | .nil => procKey_nil ..
  | .cons k fm s rest => by
    rw [procKey_cons, Fields.find, procKey_find env m key tag prov path d st rest]
    split <;> rfl

theorem insertRank_perm (obs : List String) (k : String) (xs : List String) :
    (Engine.insertRank obs k xs).Perm (k :: xs) := by
  induction xs with
  | nil => exact List.Perm.refl _
  | cons x xs ih =>
    unfold Engine.insertRank
    split
    · exact List.Perm.refl _
    · exact (List.Perm.cons x ih).trans (List.Perm.swap k x xs)

theorem orderOf_perm (obs keys : List String) : (Engine.orderOf obs keys).Perm keys := by
  induction keys with
  | nil => exact List.Perm.refl _
  | cons k ks ih =>
    unfold Engine.orderOf
    exact (insertRank_perm obs k _).trans (List.Perm.cons k ih)

/-- the fields-and-tests part of a struct node for a given provider -/
def structFields (env : Env) (m : Mode) (fs : Fields) (tests : List Test) (tag : Option String) (prov : Prov)
    (path : List String) (d : DVal) (st : St) : Out :=
  let r := fieldLoop (fun k d st => procKey env m fs k tag prov path d st) (orderOf (env.ω (render path)) fs.keys) d st
  (r.1, testAll env "struct" (render path) tests r.1 r.2)

/-- the body of a struct node (everything before its own PostTransforms) -/
def structBody (env : Env) (m : Mode) (fs : Fields) (tests : List Test) (tag : Option String) (path : List String)
    (v : Val) (d : DVal) (st : St) : Out :=
  match m with
  | .validate => structFields env m fs tests tag .empty path d st
  | .parse =>
    match provOf v with
    | none => (d, emit st (coerceIssue env (render path) "struct"))
    | some prov => structFields env m fs tests tag prov path d st

theorem proc_struct_eq (env : Env) (m : Mode) (fs : Fields) (tests : List Test) (posts : List Post) (tag : Option String)
    (path : List String) (v : Val) (d : DVal) (st : St) :
    proc env m (.struct fs tests posts) tag path v d st =
      runPosts env "struct" (render path) posts (structBody env m fs tests tag path v d st) := by
  cases m <;> rfl

/-- the provider a struct node reads its fields from: none in Validate (the empty one stands in),
    the input's in Parse — `none` when the input is no record -/
def structProv (m : Mode) (v : Val) : Option Prov :=
  match m with
  | .validate => some .empty
  | .parse => provOf v

theorem structBody_eq (env : Env) (m : Mode) (fs : Fields) (tests : List Test) (tag : Option String) (path : List String)
    (v : Val) (d : DVal) (st : St) :
    structBody env m fs tests tag path v d st =
      match structProv m v with
      | none => (d, emit st (coerceIssue env (render path) "struct"))
      | some prov => structFields env m fs tests tag prov path d st := by
  cases m <;> rfl

end Spec


theorem Engine.zipIdx3_length : ∀ (vs : List Val) (ds : List DVal) (i : Nat),
    (Engine.zipIdx3 vs ds i).length = min vs.length ds.length
  | [], _, _ => by simp [Engine.zipIdx3]
  | _ :: _, [], _ => by simp [Engine.zipIdx3]
  | _ :: vs, _ :: ds, i => by
    rw [Engine.zipIdx3, List.length_cons, List.length_cons, List.length_cons, zipIdx3_length vs ds (i + 1), Nat.succ_min_succ]

/-- input element `n` is paired with what `f` makes of work item `n` -/
theorem Spec.mem_zip_zipIdx3 {α : Type} (f : Val × DVal × Nat → α) :
    ∀ (vs : List Val) (ds : List DVal) (i : Nat) (x : Val × α), x ∈ vs.zip ((Engine.zipIdx3 vs ds i).map f) →
      ∃ y ∈ Engine.zipIdx3 vs ds i, y.2.1 ∈ ds ∧ x = (y.1, f y)
  | [], _ => fun _ _ h => by simp at h
  | _ :: _, [] => fun _ _ h => by simp [Engine.zipIdx3] at h
  | v :: vs, d :: ds => fun i x h => by
    simp only [Engine.zipIdx3, List.map_cons, List.zip_cons_cons, List.mem_cons] at h ⊢
    rcases h with rfl | h
    · exact ⟨_, .inl rfl, .inl rfl, rfl⟩
    · obtain ⟨y, hy, hd, rfl⟩ := mem_zip_zipIdx3 f vs ds (i + 1) x h
      exact ⟨y, .inr hy, .inr hd, rfl⟩

theorem Spec.sliceLoop_length (child : Spec.Child) (path : List String) :
    ∀ (xs : List (Val × DVal × Nat)) (acc : List DVal) (st : St),
      (Spec.sliceLoop child path xs acc st).1.length = acc.length + xs.length
  | [] => fun _ _ => rfl
  | _ :: rest => fun acc _ => by
    rw [Spec.sliceLoop, sliceLoop_length child path rest, List.length_append, List.length_cons, List.length_cons, List.length_nil]
    omega

end Zog
