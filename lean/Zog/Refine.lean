import Zog.Laws

/-!
# Refinement: `Engine` (flags on a shared child context) = `Spec` (no flags), given `FactsOK`

`FactsOK f` says: every child loop resets `CanCatch` and `Exit` on the shared child context
before each child, and the primitive PostTransform block clears `CanCatch`.  These are exactly the
facts `extract` regenerates from the source (`Zog.Gen.facts`).

Every node is entered with both flags off (`ChildRefines`); there `AddIssue` files its issue, so a
node that exits early agrees with the spec by computation (`rfl`). The flags a child leaves are
dropped (`.2`): every loop resets them before the next child, and a node's own tests and
PostTransforms run on the flags the node was entered with. Each loop is related to the spec's once;
each kind of node refines when its children do; the mutual induction only ties the knot (it is
structural, not by `Schema.induct`: the engine's `procKey` is not stated through `find`).
-/

namespace Zog

def FactsOK (f : Facts) : Prop :=
  f.structParseResetCatch = true ∧ f.structParseResetExit = true ∧
  f.structValResetCatch = true ∧ f.structValResetExit = true ∧
  f.sliceParseResetCatch = true ∧ f.sliceParseResetExit = true ∧
  f.sliceValResetCatch = true ∧ f.sliceValResetExit = true ∧
  f.primParsePostClearsCatch = true ∧ f.primValPostClearsCatch = true

instance (f : Facts) : Decidable (FactsOK f) := by unfold FactsOK; infer_instance

/-- the context a node is entered on: both flags off -/
abbrev Flags.off : Flags := ⟨false, false⟩

namespace Engine

theorem addIssue_off (fl : Flags) (st : St) (i : Issue) (hc : fl.canCatch = false) :
    addIssue fl st i = (fl, Spec.emit st i) := by
  simp [addIssue, hc, Spec.emit]

theorem logIf_eq (c : Bool) (st : St) (e : Event) : logIf c st e = Spec.logIf c st e := rfl

section
variable (env : Env) (dt ps : String)

theorem testLoop_off (ctch : Option DVal) (tests : List Test) (x : DVal) (st : St) :
    testLoop env dt ps ctch tests x Flags.off st = (Flags.off, x, Spec.testAll env dt ps tests x st) := by
  induction tests generalizing st with
  | nil => rfl
  | cons t ts ih => unfold testLoop Spec.testAll; cases t.pred x <;> exact ih _

/-- a catching node: the first failure sets `Exit`, the loop stops there and the node holds `c` -/
theorem testLoop_catch (c : DVal) (tests : List Test) (x : DVal) (st : St) :
    (testLoop env dt ps (some c) tests x ⟨true, false⟩ st).2 = Spec.testCatch ps c tests x st := by
  induction tests generalizing st with
  | nil => rfl
  | cons t ts ih =>
    unfold testLoop Spec.testCatch
    cases t.pred x
    · rfl
    · exact ih _

theorem tested_refines (ctch : Option DVal) (tests : List Test) (x : DVal) (st : St) :
    (testLoop env dt ps ctch tests x ⟨ctch.isSome, false⟩ st).2 = Spec.tested env dt ps ctch tests x st := by
  cases ctch with
  | none => exact congrArg (·.2) (testLoop_off ..)
  | some c => exact testLoop_catch ..

theorem stestLoop_off (tests : List Test) (x : DVal) (st : St) :
    stestLoop env dt ps tests x Flags.off st = (Flags.off, Spec.testAll env dt ps tests x st) := by
  induction tests generalizing st with
  | nil => rfl
  | cons t ts ih => unfold stestLoop Spec.testAll; cases t.pred x <;> exact ih _

theorem postLoop_nocatch (posts : List Post) (x : DVal) (e : Bool) (st : St) :
    (postLoop env dt ps posts x ⟨false, e⟩ st).2 = Spec.postLoop env dt ps posts x st := by
  induction posts generalizing x st with
  | nil => rfl
  | cons p ps' ih =>
    unfold postLoop Spec.postLoop
    rcases p.run x with ⟨x', _ | err⟩
    · exact ih _ _
    · rfl

/-- the PostTransform block needs `CanCatch` off: the block clears it itself (primitive nodes) or
    the body never set it (the other nodes) -/
theorem runPosts_refines (clears : Bool) (posts : List Post) (o : Out)
    (h : clears = true ∨ o.1.canCatch = false) :
    (runPosts env clears dt ps posts o).2 = Spec.runPosts env dt ps posts o.2 := by
  obtain ⟨⟨c, e⟩, o⟩ := o
  unfold runPosts Spec.runPosts
  cases o.2.sink.isEmpty
  · rfl
  · rcases h with rfl | rfl
    · exact postLoop_nocatch ..
    · cases clears <;> exact postLoop_nocatch ..

/-- a node body that is the spec's on a context left with both flags off -/
theorem runPosts_off {posts : List Post} {e : Out} {o : Spec.Out} (h : e = (Flags.off, o)) :
    (runPosts env false dt ps posts e).2 = Spec.runPosts env dt ps posts o :=
  h ▸ runPosts_refines env dt ps false posts (Flags.off, o) (.inr rfl)

/-- children first (`r`, which agrees with the spec's `r'`), then the node's own tests -/
theorem ownTests_off {α : Type} (tests : List Test) (mk : α → DVal) {r : Flags × α × St} {r' : α × St}
    (hr : r.2 = r') :
    (let t := stestLoop env dt ps tests (mk r.2.1) Flags.off r.2.2; (t.1, mk r.2.1, t.2))
      = (Flags.off, mk r'.1, Spec.testAll env dt ps tests (mk r'.1) r'.2) := by
  simp only [← hr, stestLoop_off]

end

theorem primClears_ok (f : Facts) (hf : FactsOK f) (m : Mode) : primClears f m = true := by
  cases m
  · exact hf.2.2.2.2.2.2.2.2.1
  · exact hf.2.2.2.2.2.2.2.2.2

/-- the same case tree on both sides; a catching node that fails holds its Catch value on both -/
theorem primBody_refines (env : Env) (m : Mode) (p : Prim) (path : List String) (v : Val) (d : DVal) (st : St) :
    (primBody env m p Flags.off path v d st).2 = Spec.primBody env m p path v d st := by
  unfold primBody Spec.primBody
  cases primAbsent m v d
  · cases m
    · cases p.coerce v with
      | none => cases p.ctch <;> rfl
      | some x => exact tested_refines ..
    · exact tested_refines ..
  · cases p.dflt with
    | some x => exact tested_refines ..
    | none =>
      cases p.required with
      | none => rfl
      | some r => cases p.ctch <;> rfl

/-- the body may leave `CanCatch` set: the PostTransform block has to clear it -/
theorem prim_refines (env : Env) (f : Facts) (hf : FactsOK f) (m : Mode) (p : Prim)
    (path : List String) (v : Val) (d : DVal) (st : St) :
    (prim env f m p Flags.off path v d st).2 = Spec.prim env m p path v d st := by
  unfold prim Spec.prim
  rw [runPosts_refines _ _ _ _ _ _ (.inl (primClears_ok f hf m)), primBody_refines]

theorem resetStruct_ok (f : Facts) (hf : FactsOK f) (m : Mode) (fl : Flags) : resetStruct f m fl = Flags.off := by
  obtain ⟨h1, h2, h3, h4, _⟩ := hf
  cases m <;> simp [resetStruct, h1, h2, h3, h4]

theorem resetSlice_ok (f : Facts) (hf : FactsOK f) (m : Mode) (fl : Flags) : resetSlice f m fl = Flags.off := by
  obtain ⟨_, _, _, _, h5, h6, h7, h8, _⟩ := hf
  cases m <;> simp [resetSlice, h5, h6, h7, h8]

/-- a child refines when, started on a shared context with both flags off, it agrees with the spec child -/
def ChildRefines (c : Child) (s : Spec.Child) : Prop :=
  ∀ path v d st, (c Flags.off path v d st).2 = s path v d st

theorem sliceLoop_refines (f : Facts) (hf : FactsOK f) (m : Mode) (c : Child) (s : Spec.Child)
    (h : ChildRefines c s) (path : List String) :
    ∀ (xs : List (Val × DVal × Nat)) (sub : Flags) (ds : List DVal) (st : St),
      (sliceLoop f m c path xs sub ds st).2 = Spec.sliceLoop s path xs ds st
  | [] => fun _ _ _ => rfl
  | x :: rest => fun sub ds st => by
    unfold sliceLoop Spec.sliceLoop
    rw [resetSlice_ok f hf, ← h]
    exact sliceLoop_refines f hf m c s h path rest _ _ _

theorem fieldLoop_refines (f : Facts) (hf : FactsOK f) (m : Mode)
    (step : String → Flags → DVal → St → Out) (sstep : String → DVal → St → Spec.Out)
    (h : ∀ k d st, (step k Flags.off d st).2 = sstep k d st) :
    ∀ (ks : List String) (sub : Flags) (d : DVal) (st : St),
      (fieldLoop f m step ks sub d st).2 = Spec.fieldLoop sstep ks d st
  | [] => fun _ _ _ => rfl
  | k :: ks => fun sub d st => by
    unfold fieldLoop Spec.fieldLoop
    rw [resetStruct_ok f hf, ← h]
    exact fieldLoop_refines f hf m step sstep h ks _ _ _


section
variable (env : Env) (f : Facts) (m : Mode) (tag : Option String)

theorem slice_refines (hf : FactsOK f) (elem : Schema) (sm : SliceMods)
    (h : ChildRefines (proc env f m elem none) (Spec.proc env m elem none)) :
    ChildRefines (proc env f m (.slice elem sm) tag) (Spec.proc env m (.slice elem sm) tag) := by
  intro path v d st
  have items := fun xs => ownTests_off env "slice" (render path) sm.tests DVal.slice
    (sliceLoop_refines f hf m _ _ h path xs Flags.off [] st)
  rw [Spec.proc_slice_eq]
  unfold proc
  refine runPosts_off env _ _ ?_
  unfold Spec.sliceBody
  cases m
  · cases isParseZero v
    · cases sm.coerce v with
      | none => rfl
      | some xs => exact items _
    · cases sm.dfltIn with
      | some xs => exact items _
      | none => cases sm.required <;> rfl
  · -- `d.elems.isEmpty` is tested through a `let`: split the list itself
    cases d.elems with
    | cons x xs => exact items _
    | nil =>
      cases sm.dfltD with
      | some ds => exact items _
      | none => cases sm.required <;> rfl

theorem struct_refines (hf : FactsOK f) (fs : Fields) (tests : List Test) (posts : List Post)
    (h : ∀ k prov path d st,
      (procKey env f m fs k tag prov Flags.off path d st).2 = Spec.procKey env m fs k tag prov path d st) :
    ChildRefines (proc env f m (.struct fs tests posts) tag) (Spec.proc env m (.struct fs tests posts) tag) := by
  intro path v d st
  have fields := fun prov => ownTests_off env "struct" (render path) tests id
    (fieldLoop_refines f hf m (fun k sub d st => procKey env f m fs k tag prov sub path d st) _
      (fun k => h k prov path) (orderOf (env.ω (render path)) fs.keys) Flags.off d st)
  rw [Spec.proc_struct_eq]
  unfold proc
  refine runPosts_off env _ _ ?_
  unfold Spec.structBody
  cases m
  · cases provOf v with
    | none => rfl
    | some prov => exact fields prov
  · exact fields .empty

/-- the pointee is processed on a fresh context -/
theorem ptr_refines (elem : Schema) (zp : DVal) (nn : Option Test)
    (h : ChildRefines (proc env f m elem tag) (Spec.proc env m elem tag)) :
    ChildRefines (proc env f m (.ptr elem zp nn) tag) (Spec.proc env m (.ptr elem zp nn) tag) := by
  intro path v d st
  unfold proc
  rw [Spec.proc_ptr, ← h]
  cases ptrAbsent m v d
  · rfl
  · cases nn <;> rfl

theorem custom_refines (c : CustomSpec) :
    ChildRefines (proc env f m (.custom c) tag) (Spec.proc env m (.custom c) tag) := by
  intro path v d st
  rw [Spec.proc_custom]
  unfold proc Spec.customRun
  cases m
  · cases c.accept v with
    | none => rfl
    | some x => simp only; cases c.test.pred x <;> rfl
  · simp only; cases c.test.pred d <;> rfl

/-- the inner node runs on the context the node was handed -/
theorem pre_refines (ps : PreSpec) (inner : Schema)
    (h : ChildRefines (proc env f m inner tag) (Spec.proc env m inner tag)) :
    ChildRefines (proc env f m (.pre ps inner) tag) (Spec.proc env m (.pre ps inner) tag) := by
  intro path v d st
  rw [Spec.proc_pre]
  unfold proc
  cases m
  · cases ps.accept v
    · rfl
    · rcases ps.run v with ⟨v', _ | e⟩
      · exact h ..
      · rfl
  · rcases ps.runD d with ⟨d', _ | e⟩
    · exact h ..
    · rfl

end

mutual
theorem proc_refines (env : Env) (f : Facts) (hf : FactsOK f) (m : Mode) :
    ∀ (s : Schema) (tag : Option String), ChildRefines (proc env f m s tag) (Spec.proc env m s tag)
  | .prim p, _ => prim_refines env f hf m p
  | .slice elem sm, tag => slice_refines env f m tag hf elem sm (proc_refines env f hf m elem none)
  | .ptr elem zp nn, tag => ptr_refines env f m tag elem zp nn (proc_refines env f hf m elem tag)
  | .struct fs tests posts, tag => struct_refines env f m tag hf fs tests posts
      fun k prov path d st => procKey_refines env f hf m fs k tag prov Flags.off path d st rfl rfl
  | .custom c, tag => custom_refines env f m tag c
  | .pre ps inner, tag => pre_refines env f m tag ps inner (proc_refines env f hf m inner tag)
theorem procKey_refines (env : Env) (f : Facts) (hf : FactsOK f) (m : Mode) :
    ∀ (fs : Fields) (key : String) (tag : Option String) (prov : Prov) (sub : Flags) (path : List String)
      (d : DVal) (st : St),
      sub.exit = false → sub.canCatch = false →
      (procKey env f m fs key tag prov sub path d st).2 = Spec.procKey env m fs key tag prov path d st
  | .nil => fun _ _ _ _ _ _ _ _ _ => rfl
  | .cons k fm s rest => fun key tag prov sub path d st he hc => by
      cases sub; cases he; cases hc  -- `sub` is `Flags.off`
      unfold procKey
      rw [Spec.procKey_cons]
      cases k == key
      · exact procKey_refines env f hf m rest key tag prov Flags.off path d st rfl rfl
      · rw [← proc_refines env f hf m s none]; cases m <;> rfl
end

/-- **Refinement.** For every schema, mode, input, destination and visit-order oracle, the
    mechanism model under `FactsOK` computes exactly the reference semantics. -/
theorem run_refines (env : Env) (f : Facts) (hf : FactsOK f) (m : Mode) (s : Schema) (tag : Option String)
    (v : Val) (d : DVal) : run env f m s tag v d = Spec.run env m s tag v d :=
  proc_refines env f hf m s tag [] v d {}

end Engine
end Zog
