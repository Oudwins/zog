import Zog.Schema

/-!
# Struct destinations and field lists
Lemmas about struct destinations (`lookupD`, `setD`, `DVal.get`, `DVal.set`) and about the field
lists of struct schemas (`Fields.find`), with the predicates the whole-tree theorems assume:
`postFree` (no PostTransforms) and `WF` (distinct keys on distinct Go fields). `Schema.induct` is the
induction the whole-tree theorems of the later files go by: a struct's fields are reached the way the
traversal reaches them, through `find`, so each such theorem is a single induction, and what it says
of a field list follows as a corollary.
-/

namespace Zog

def DVal.has (d : DVal) (g : String) : Bool :=
  match d with
  | .struct fs => (lookupD fs g).isSome
  | _ => false

/-- `setD` replaces the value under `k` where there is one, and touches nothing else -/
theorem lookupD_setD (fs : List (String × DVal)) (k k' : String) (x : DVal) :
    lookupD (setD fs k x) k' = if k' = k then (lookupD fs k').map (fun _ => x) else lookupD fs k' := by
  induction fs with
  | nil => simp [setD, lookupD]
  | cons p rest ih =>
    obtain ⟨pk, pv⟩ := p
    by_cases h : pk = k
    · subst h; by_cases h' : k' = pk <;> simp [setD, lookupD, h', Ne.symm]
    · by_cases h' : k' = k
      · subst h'; simpa [setD, lookupD, h] using ih
      · simp [setD, lookupD, h, h', ih]

theorem DVal.get_set_self (d : DVal) (g : String) (c : DVal) :
    (d.set g c).get g = if d.has g then c else d.get g := by
  cases d with
  | struct fs => cases h : lookupD fs g <;> simp [DVal.set, DVal.get, DVal.has, lookupD_setD, h]
  | _ => rfl

theorem DVal.has_set (d : DVal) (g g' : String) (c : DVal) : (d.set g' c).has g = d.has g := by
  cases d <;> simp only [DVal.set, DVal.has]
  rw [lookupD_setD]
  split <;> simp

theorem setD_comm (fs : List (String × DVal)) (a b : String) (x y : DVal) (h : a ≠ b) :
    setD (setD fs a x) b y = setD (setD fs b y) a x := by
  induction fs with
  | nil => rfl
  | cons p rest ih =>
    obtain ⟨k, v⟩ := p
    by_cases ha : (k == a) = true
    · have hka : k = a := by simpa using ha
      have hb : (k == b) = false := by simp [hka, h]
      simp [setD, ha, hb]
    · by_cases hb : (k == b) = true
      · simp [setD, ha, hb]
      · simp [setD, ha, hb, ih]

theorem DVal.set_comm (d : DVal) (a b : String) (x y : DVal) (h : a ≠ b) :
    (d.set a x).set b y = (d.set b y).set a x := by
  cases d <;> simp [DVal.set, setD_comm _ _ _ _ _ h]

theorem DVal.get_set_other (d : DVal) (k k' : String) (x : DVal) (h : k ≠ k') : (d.set k' x).get k = d.get k := by
  cases d <;> simp [DVal.set, DVal.get, lookupD_setD, h]

theorem setD_names (fs : List (String × DVal)) (k : String) (x : DVal) : (setD fs k x).map Prod.fst = fs.map Prod.fst := by
  induction fs with
  | nil => rfl
  | cons p rest ih =>
    obtain ⟨pk, pv⟩ := p
    by_cases h : (pk == k) = true
    · simp [setD, h]
    · simp [setD, h, ih]

mutual
def Schema.postFree : Schema → Bool
  | .prim p => p.posts.isEmpty
  | .slice elem sm => sm.posts.isEmpty && elem.postFree
  | .ptr elem _ _ => elem.postFree
  | .pre _ inner => inner.postFree
  | .struct fs _ posts => posts.isEmpty && fs.postFree
  | .custom _ => true
def Fields.postFree : Fields → Bool
  | .nil => true
  | .cons _ _ s rest => s.postFree && rest.postFree
end

theorem Schema.postFree_prim {p : Prim} : (Schema.prim p).postFree = true ↔ p.posts = [] := by
  simp only [Schema.postFree, List.isEmpty_iff]

theorem Schema.postFree_slice {elem : Schema} {sm : SliceMods} :
    (Schema.slice elem sm).postFree = true ↔ sm.posts = [] ∧ elem.postFree = true := by
  simp only [Schema.postFree, Bool.and_eq_true, List.isEmpty_iff]

theorem Schema.postFree_struct {fs : Fields} {tests : List Test} {posts : List Post} :
    (Schema.struct fs tests posts).postFree = true ↔ posts = [] ∧ fs.postFree = true := by
  simp only [Schema.postFree, Bool.and_eq_true, List.isEmpty_iff]

theorem Fields.postFree_cons {k : String} {fm : FieldMeta} {s : Schema} {rest : Fields} :
    (Fields.cons k fm s rest).postFree = true ↔ s.postFree = true ∧ rest.postFree = true := by
  simp only [Fields.postFree, Bool.and_eq_true]

/-! The hypothesis of the whole-tree theorems "there is a gate, or no PostTransform to be gated", node by node. -/

theorem Schema.gate_prim {gated : Bool} {p : Prim} (h : gated = true ∨ (Schema.prim p).postFree = true) :
    gated = true ∨ p.posts = [] :=
  h.imp_right Schema.postFree_prim.mp

theorem Schema.gate_slice {gated : Bool} {elem : Schema} {sm : SliceMods} (h : gated = true ∨ (Schema.slice elem sm).postFree = true) :
    (gated = true ∨ sm.posts = []) ∧ (gated = true ∨ elem.postFree = true) :=
  ⟨h.imp_right fun h => (Schema.postFree_slice.mp h).1, h.imp_right fun h => (Schema.postFree_slice.mp h).2⟩

theorem Schema.gate_struct {gated : Bool} {fs : Fields} {tests : List Test} {posts : List Post}
    (h : gated = true ∨ (Schema.struct fs tests posts).postFree = true) :
    (gated = true ∨ posts = []) ∧ (gated = true ∨ fs.postFree = true) :=
  ⟨h.imp_right fun h => (Schema.postFree_struct.mp h).1, h.imp_right fun h => (Schema.postFree_struct.mp h).2⟩

def Fields.append : Fields → Fields → Fields
  | .nil, gs => gs
  | .cons k fm s rest, gs => .cons k fm s (rest.append gs)

theorem Fields.keys_append : ∀ (pre rest : Fields), (pre.append rest).keys = pre.keys ++ rest.keys
  | .nil, _ => rfl
  | .cons k fm s r, rest => by simp [Fields.append, Fields.keys, Fields.keys_append r rest]

/-- the first field with the key; the key is handed back with it, as `procKey` has all three in hand -/
def Fields.find : Fields → String → Option (String × FieldMeta × Schema)
  | .nil, _ => none
  | .cons k fm s rest, key => if k == key then some (k, fm, s) else rest.find key

/-- distinct schema keys address distinct Go fields. zog finds the field by the key with its first
    letter upper-cased (struct.go), so the keys `name` and `Name` would hit one field. -/
def Fields.GoNamesInj (fs : Fields) : Prop :=
  ∀ a b ka fma sa kb fmb sb, fs.find a = some (ka, fma, sa) → fs.find b = some (kb, fmb, sb) → a ≠ b → fma.goName ≠ fmb.goName

mutual
def Schema.WF : Schema → Prop
  | .prim _ => True
  | .slice elem _ => elem.WF
  | .ptr elem _ _ => elem.WF
  | .pre _ inner => inner.WF
  | .struct fs _ _ => fs.keys.Nodup ∧ fs.GoNamesInj ∧ fs.WF
  | .custom _ => True
def Fields.WF : Fields → Prop
  | .nil => True
  | .cons _ _ s rest => s.WF ∧ rest.WF
end

def Fields.goNames : Fields → List String
  | .nil => []
  | .cons _ fm _ rest => fm.goName :: rest.goNames

/-- `find` returns the first field with the key: what holds of the head of every list, and of a
    list once it holds of its tail, holds of the field found -/
theorem Fields.find_induct {P : Fields → String → FieldMeta → Schema → Prop}
    (head : ∀ {k fm s rest}, P (.cons k fm s rest) k fm s)
    (tail : ∀ {k' fm' s' rest k fm s}, P rest k fm s → P (.cons k' fm' s' rest) k fm s) :
    ∀ (fs : Fields) (key k : String) (fm : FieldMeta) (s : Schema), fs.find key = some (k, fm, s) → k = key ∧ P fs k fm s
  | .nil => fun _ _ _ _ h => by simp [Fields.find] at h
  | .cons k' fm' s' rest => fun key k fm s h => by
    simp only [Fields.find] at h
    split at h
    · cases h
      exact ⟨by simpa using ‹(k' == key) = true›, head⟩
    · obtain ⟨rfl, ih⟩ := find_induct head tail rest key k fm s h
      exact ⟨rfl, tail ih⟩

/-- a field shadowed by an earlier one with the same key gets no hypothesis: the traversal never reaches it -/
theorem Schema.induct {P : Schema → Prop} (prim : ∀ p, P (.prim p)) (custom : ∀ c, P (.custom c))
    (slice : ∀ elem sm, P elem → P (.slice elem sm)) (ptr : ∀ elem zp nn, P elem → P (.ptr elem zp nn))
    (pre : ∀ ps inner, P inner → P (.pre ps inner))
    (struct : ∀ fs tests posts, (∀ key k fm s, fs.find key = some (k, fm, s) → P s) → P (.struct fs tests posts))
    (s : Schema) : P s :=
  Schema.rec (motive_1 := P) (motive_2 := fun fs => ∀ key k fm s, fs.find key = some (k, fm, s) → P s)
    prim slice ptr struct custom pre (fun _ _ _ _ h => by simp [Fields.find] at h)
    (fun k' fm' s' rest hs hrest key k fm s h => by
      simp only [Fields.find] at h
      split at h
      · cases h; exact hs
      · exact hrest key k fm s h)
    s

theorem Fields.find_goName_mem (fs : Fields) (key k : String) (fm : FieldMeta) (s : Schema)
    (h : fs.find key = some (k, fm, s)) : fm.goName ∈ fs.goNames :=
  (Fields.find_induct (P := fun fs _ fm _ => fm.goName ∈ fs.goNames) List.mem_cons_self
    (List.mem_cons_of_mem _) fs key k fm s h).2

/-- distinct Go field names make a field list `GoNamesInj`: two different keys find fields at
    different positions -/
theorem Fields.goNamesInj_of_nodup : ∀ fs : Fields, fs.goNames.Nodup → fs.GoNamesInj
  | .nil, _ => fun a _ _ _ _ _ _ _ ha => by simp [Fields.find] at ha
  | .cons k fm s rest, hnd => by
    intro a b ka fma sa kb fmb sb ha hb hab
    simp only [Fields.goNames, List.nodup_cons] at hnd
    simp only [Fields.find] at ha hb
    split at ha <;> split at hb
    · next h1 h2 => exact absurd ((beq_iff_eq.mp h1).symm.trans (beq_iff_eq.mp h2)) hab
    · cases ha; exact fun e => hnd.1 (e ▸ rest.find_goName_mem b kb fmb sb hb)
    · cases hb; exact fun e => hnd.1 (e ▸ rest.find_goName_mem a ka fma sa ha)
    · exact goNamesInj_of_nodup rest hnd.2 a b ka fma sa kb fmb sb ha hb hab

theorem Fields.find_of_split : ∀ (pre : Fields) (k : String) (fm : FieldMeta) (s : Schema) (rest : Fields), k ∉ pre.keys →
    (pre.append (.cons k fm s rest)).find k = some (k, fm, s)
  | .nil => fun k fm s rest _ => by simp [Fields.append, Fields.find]
  | .cons k' fm' s' r => fun k fm s rest h => by
    simp only [Fields.keys, List.mem_cons, not_or] at h
    have hk : (k' == k) = false := by simpa using fun e => h.1 e.symm
    simp only [Fields.append, Fields.find, hk, Bool.false_eq_true, ↓reduceIte]
    exact Fields.find_of_split r k fm s rest h.2

def Fields.snoc (pre : Fields) (k : String) (fm : FieldMeta) (s : Schema) : Fields := pre.append (.cons k fm s .nil)

theorem Fields.snoc_append : ∀ (pre : Fields) (k : String) (fm : FieldMeta) (s : Schema) (rest : Fields),
    (Fields.snoc pre k fm s).append rest = pre.append (.cons k fm s rest)
  | .nil => fun _ _ _ _ => rfl
  | .cons k' fm' s' r => fun k fm s rest => by
    have := Fields.snoc_append r k fm s rest
    simp only [Fields.snoc, Fields.append] at this ⊢
    rw [this]

theorem Fields.snoc_keys (pre : Fields) (k : String) (fm : FieldMeta) (s : Schema) : (Fields.snoc pre k fm s).keys = pre.keys ++ [k] := by
  simp [Fields.snoc, Fields.keys_append, Fields.keys]

theorem Fields.goNames_find : ∀ (fs : Fields) (n : String), fs.keys.Nodup → n ∈ fs.goNames →
    ∃ key k fm s, key ∈ fs.keys ∧ fs.find key = some (k, fm, s) ∧ fm.goName = n
  | .nil => fun _ _ h => by simp [Fields.goNames] at h
  | .cons k fm s rest => fun n hnd h => by
    obtain ⟨hk, hnd⟩ := List.nodup_cons.mp hnd
    rcases List.mem_cons.mp h with rfl | h
    · exact ⟨k, k, fm, s, List.mem_cons_self, by simp [Fields.find], rfl⟩
    · obtain ⟨key, k2, fm2, s2, hmem, hf, hg⟩ := goNames_find rest n hnd h
      have hne : k ≠ key := fun e => hk (e ▸ hmem)
      exact ⟨key, k2, fm2, s2, List.mem_cons_of_mem _ hmem, by simp [Fields.find, hne, hf], hg⟩

theorem lookupD_setD_mem (fs : List (String × DVal)) (g : String) (c : DVal) (h : g ∈ fs.map Prod.fst) :
    lookupD (setD fs g c) g = some c := by
  induction fs with
  | nil => simp at h
  | cons p rest ih =>
    obtain ⟨pk, pv⟩ := p
    by_cases hk : (pk == g) = true
    · simp [setD, lookupD, hk]
    · have hne : pk ≠ g := by simpa using hk
      simp only [List.map_cons, List.mem_cons, Ne.symm hne, false_or] at h
      simp [setD, lookupD, hk, ih h]

/-- a struct with distinct field names is the table of what `get` reads from it -/
theorem struct_eq_table (fs : List (String × DVal)) (hnd : (fs.map Prod.fst).Nodup) :
    fs = (fs.map Prod.fst).map (fun n => (n, (DVal.struct fs).get n)) := by
  induction fs with
  | nil => rfl
  | cons p rest ih =>
    obtain ⟨pk, pv⟩ := p
    simp only [List.map_cons, List.nodup_cons] at hnd
    simp only [List.map_cons, DVal.get, lookupD, beq_self_eq_true, ↓reduceIte, Option.getD_some, List.cons.injEq, true_and]
    refine (ih hnd.2).trans (List.map_congr_left fun n hn => ?_)
    have hne : pk ≠ n := fun e => hnd.1 (e ▸ hn)
    simp [DVal.get, hne]

theorem get_setD_other (fs : List (String × DVal)) (n g : String) (c : DVal) (h : n ≠ g) :
    (DVal.struct (setD fs g c)).get n = (DVal.struct fs).get n :=
  DVal.get_set_other (.struct fs) n g c h

theorem get_setD_self {f₁ f₂ : List (String × DVal)} (hn : f₁.map Prod.fst = f₂.map Prod.fst) (g : String) (c : DVal)
    (h : g ∈ f₂.map Prod.fst) : (DVal.struct (setD f₁ g c)).get g = (DVal.struct (setD f₂ g c)).get g := by
  simp only [DVal.get, lookupD_setD_mem _ _ _ h, lookupD_setD_mem _ _ _ (hn ▸ h)]

namespace Spec

theorem Fields.find_wf : ∀ (fs : Fields) (key k : String) (fm : FieldMeta) (s : Schema), fs.WF → fs.find key = some (k, fm, s) → s.WF :=
  fun fs key k fm s hw h =>
    (Fields.find_induct (P := fun fs _ _ s => fs.WF → s.WF) (fun h => h.1) (fun ih h => ih h.2) fs key k fm s h).2 hw

theorem Fields.find_postFree : ∀ (fs : Fields) (key k : String) (fm : FieldMeta) (s : Schema), fs.postFree = true → fs.find key = some (k, fm, s) → s.postFree = true :=
  fun fs key k fm s hp h =>
    (Fields.find_induct (P := fun fs _ _ s => fs.postFree = true → s.postFree = true)
      (fun h => (Fields.postFree_cons.mp h).1) (fun ih h => ih (Fields.postFree_cons.mp h).2) fs key k fm s h).2 hp

theorem find_key_eq : ∀ (fs : Fields) (key k : String) (fm : FieldMeta) (s : Schema), fs.find key = some (k, fm, s) → k = key :=
  fun fs key k fm s h =>
    (Fields.find_induct (P := fun _ _ _ _ => True) trivial (fun _ => trivial) fs key k fm s h).1

theorem find_mem_keys (fs : Fields) (key k : String) (fm : FieldMeta) (s : Schema) (h : fs.find key = some (k, fm, s)) :
    key ∈ fs.keys := by
  obtain ⟨rfl, hk⟩ := Fields.find_induct (P := fun fs k _ _ => k ∈ fs.keys) List.mem_cons_self
    (List.mem_cons_of_mem _) fs key k fm s h
  exact hk

theorem Fields.gate_find {gated : Bool} {fs : Fields} {key k : String} {fm : FieldMeta} {s : Schema} (hf : fs.find key = some (k, fm, s))
    (h : gated = true ∨ fs.postFree = true) : gated = true ∨ s.postFree = true :=
  h.imp_right fun h => Fields.find_postFree fs key k fm s h hf

end Spec
end Zog
