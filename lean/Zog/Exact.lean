import Zog.Loops

/-!
# No issue ⇔ no violation, and what success establishes — at every depth   (C01, C02)

`NoViolU` says node by node that nothing is wrong: the value is present or the node may be absent,
it coerces, every declared test holds (or the node's Catch swallows its own failures), every
PostTransform succeeds (`PostsOK`, stated through the PostTransform loop itself), and the same below.
`cleanU_iff`: a well-formed schema records no issue iff `NoViolU` holds, for every visit order; it is
the one induction over the traversal in this file. `ValidU` (what a successful run has established)
weakens `NoViolU` node by node; `NoViol` and `Valid` are what the two say of a schema without
PostTransforms, with the tests read off the final destination (`noViolU_iff_noViol`,
`validU_iff_valid`). These steps are structural.
-/

namespace Zog
namespace Spec
open Engine (Prov provOf zipIdx3)

/-- nothing is wrong at a primitive node (a catching node swallows its own failures) -/
def PrimOK (m : Mode) (p : Prim) (v : Val) (d : DVal) : Prop :=
  p.ctch.isSome = true ∨
  (if Engine.primAbsent m v d = true then
     (match p.dflt with
      | some x => p.tests.all (fun t => t.pred x) = true
      | none => p.required = none)
   else
     (match m with
      | .validate => p.tests.all (fun t => t.pred d) = true
      | .parse => ∃ x, p.coerce v = some x ∧ p.tests.all (fun t => t.pred x) = true))

/-- what "valid" means at one primitive node once it has been visited: the documented exemptions
    are an absent optional node (left untouched, not tested) and a node holding its catch value -/
def PrimSat (m : Mode) (p : Prim) (v : Val) (d out : DVal) : Prop :=
  (Engine.primAbsent m v d = true ∧ p.dflt = none ∧ p.required = none ∧ out = d)
  ∨ p.ctch = some out
  ∨ ((Engine.primAbsent m v d = true → p.dflt.isSome) ∧ p.tests.all (fun t => t.pred out) = true)

theorem testAll_clean_iff (env : Env) (dt ps : String) (tests : List Test) (x : DVal) (st : St) :
    (testAll env dt ps tests x st).sink = st.sink ↔ tests.all (fun t => t.pred x) = true := by
  rw [testAll_sink, List.append_right_eq_self, List.map_eq_nil_iff, failing_eq_nil]

theorem testAll_nil_iff (env : Env) (dt ps : String) (tests : List Test) (x : DVal) (st : St) :
    (testAll env dt ps tests x st).sink = [] ↔ (st.sink = [] ∧ tests.all (fun t => t.pred x) = true) := by
  rw [testAll_sink, List.append_eq_nil_iff, List.map_eq_nil_iff, failing_eq_nil]

theorem tested_clean_iff (env : Env) (dt ps : String) (ctch : Option DVal) (tests : List Test) (x : DVal) (st : St) :
    (tested env dt ps ctch tests x st).2.sink = st.sink ↔ (ctch.isSome = true ∨ tests.all (fun t => t.pred x) = true) := by
  unfold tested
  cases ctch with
  | some c => simp [testCatch_sink]
  | none => simp [testAll_clean_iff]

theorem primBody_clean_iff (env : Env) (m : Mode) (p : Prim) (path : List String) (v : Val) (d : DVal) (st : St) :
    (primBody env m p path v d st).2.sink = st.sink ↔ PrimOK m p v d := by
  refine primBody_cases (motive := fun f => (f st).2.sink = st.sink ↔ PrimOK m p v d) env m p path v d
    (fun x hx => ?_) (fun ha hd hr => ?_) (fun i hi => ?_)
  · rcases hx with ⟨ha, hd⟩ | ⟨ha, hx⟩
    · simp [PrimOK, ha, hd, tested_clean_iff]
    · cases m <;> simp only at hx <;> simp [PrimOK, ha, hx, tested_clean_iff]
  · simp [PrimOK, ha, hd, hr]
  · rcases hi with ⟨ha, hd, r, hr, _⟩ | ⟨ha, rfl, hco, _⟩ <;> cases hc : p.ctch <;> simp [PrimOK, *, emit]

theorem tested_sat (env : Env) (dt ps : String) (ctch : Option DVal) (tests : List Test) (x : DVal) (st : St)
    (h : (tested env dt ps ctch tests x st).2.sink = st.sink) :
    ctch = some (tested env dt ps ctch tests x st).1 ∨
      tests.all (fun t => t.pred (tested env dt ps ctch tests x st).1) = true := by
  unfold tested at *
  cases ctch with
  | some c =>
    simp only [testCatch_dest]
    by_cases ha : tests.all (fun t => t.pred x) = true
    · right; simp [ha]
    · left; simp [ha]
  | none => exact .inr ((testAll_clean_iff env dt ps tests x st).mp h)

theorem primBody_sat (env : Env) (m : Mode) (p : Prim) (path : List String) (v : Val) (d : DVal) (st : St)
    (h : (primBody env m p path v d st).2.sink = st.sink) :
    PrimSat m p v d (primBody env m p path v d st).1 := by
  refine primBody_cases (motive := fun f => (f st).2.sink = st.sink → PrimSat m p v d (f st).1) env m p path v d
    (fun x hx h => ?_) (fun ha hd hr _ => .inl ⟨ha, hd, hr, rfl⟩) (fun i _ h => ?_) h
  · refine (tested_sat env _ _ _ _ x st h).elim (fun h => .inr (.inl h)) (fun h => .inr (.inr ⟨fun ha => ?_, h⟩))
    rcases hx with hx | hx
    · simp [hx.2]
    · simp [hx.1] at ha
  · cases hc : p.ctch with
    | some c => exact .inr (.inl hc)
    | none => simp [hc, emit] at h

/-- every PostTransform of the list succeeds on `x` (and on what its predecessors made of it) -/
def PostsOK (env : Env) (dt ps : String) (posts : List Post) (x : DVal) : Prop :=
  (postLoop env dt ps posts x {}).2.sink = []

theorem runPosts_clean_iff (env : Env) (dt ps : String) (posts : List Post) (o : Out) :
    (runPosts env dt ps posts o).2.sink = [] ↔ (o.2.sink = [] ∧ PostsOK env dt ps posts o.1) := by
  -- the block from the empty state is the PostTransform loop itself, which is what `PostsOK` is stated through
  rw [runPosts_eq, (gatePosts_built (PI := fun _ => True) (PE := fun _ => True) dt ps posts o.1 rfl
    (fun _ _ _ _ _ => trivial) (fun _ _ _ => trivial)).clean_iff o.2]
  rfl

mutual
/-- nothing is wrong at this node or below, and every PostTransform succeeds -/
def NoViolU (env : Env) (m : Mode) : Schema → Option String → List String → Val → DVal → Prop
  | .prim p, _, path, v, d =>
    PrimOK m p v d ∧ PostsOK env p.kind.dtype (render path) p.posts (primBody env m p path v d {}).1
  | .custom c, _, _, v, d =>
    match m with
    | .validate => c.test.pred d = true
    | .parse => ∃ x, c.accept v = some x ∧ c.test.pred x = true
  | .ptr elem zp nn, tag, path, v, d =>
    if Engine.ptrAbsent m v d then nn = none
    else NoViolU env m elem tag path v (d.pointee zp)
  | .pre ps inner, tag, path, v, d =>
    match m with
    | .parse => ps.accept v = true ∧ ∃ v', ps.run v = (v', none) ∧ NoViolU env m inner tag path v' d
    | .validate => ∃ d', ps.runD d = (d', none) ∧ NoViolU env m inner tag path v d'
  | .slice elem sm, _, path, v, d =>
    (match sliceSrc m sm v d with
     | .skipped => True
     | .failed => False
     | .items ins ds =>
       (∀ x ∈ zipIdx3 ins ds 0, NoViolU env m elem none (path ++ ["[" ++ toString x.2.2 ++ "]"]) x.1 x.2.1) ∧
       sm.tests.all (fun t => t.pred (sliceItems env m elem sm path ins ds {}).1) = true) ∧
    PostsOK env "slice" (render path) sm.posts (sliceBody env m elem sm path v d {}).1
  | .struct fs tests posts, tag, path, v, d =>
    ((match m with
      | .validate => NoViolUFields env m tag .empty path d fs
      | .parse => ∃ prov, provOf v = some prov ∧ NoViolUFields env m tag prov path d fs) ∧
     tests.all (fun t => t.pred (structBody env m fs tests tag path v d {}).1) = true) ∧
    PostsOK env "struct" (render path) posts (structBody env m fs tests tag path v d {}).1
def NoViolUFields (env : Env) (m : Mode) (tag : Option String) (prov : Prov) (path : List String) (d : DVal) : Fields → Prop
  | .nil => True
  | .cons k fm s rest =>
    NoViolU env m s none (path ++ [fieldKeyOf m tag prov fm k]) (fieldInput m prov (fieldKeyOf m tag prov fm k)) (d.get fm.goName) ∧
    NoViolUFields env m tag prov path d rest
end

theorem customRun_clean_iff (env : Env) (c : CustomSpec) (ps : String) (x : DVal) :
    (customRun env c ps x {}).2.sink = [] ↔ c.test.pred x = true := by
  unfold customRun
  by_cases hp : c.test.pred x = true <;> simp [hp, emit]

theorem sliceItems_clean_iff (env : Env) (m : Mode) (elem : Schema) (sm : SliceMods) (path : List String) (ins : List Val)
    (ds : List DVal) :
    (sliceItems env m elem sm path ins ds {}).2.sink = [] ↔
      ((∀ x ∈ zipIdx3 ins ds 0, (proc env m elem none (path ++ ["[" ++ toString x.2.2 ++ "]"]) x.1 x.2.1 {}).2.sink = []) ∧
       sm.tests.all (fun t => t.pred (sliceItems env m elem sm path ins ds {}).1) = true) := by
  simp only [sliceItems, testAll_nil_iff, sliceLoop_clean_iff _ path (fun _ v d => proc_tame env m true elem (.inl rfl) none _ v d)]

theorem structFields_clean_iff (env : Env) (m : Mode) (fs : Fields) (tests : List Test) (tag : Option String) (prov : Prov)
    (path : List String) (d : DVal) (hkeys : fs.keys.Nodup) (hinj : fs.GoNamesInj) :
    (structFields env m fs tests tag prov path d {}).2.sink = [] ↔
      ((∀ k ∈ fs.keys, (fieldStep env m fs tag prov path k d).2.sink = []) ∧
       tests.all (fun t => t.pred (structFields env m fs tests tag prov path d {}).1) = true) := by
  have hperm := orderOf_perm (env.ω (render path)) fs.keys
  simp only [structFields, testAll_nil_iff]
  rw [fieldLoop_clean_iff _ (fun k d => procKey_tame env m true fs (.inl rfl) k tag prov path d)
    (fun a b d hab => (procKey_comm env m fs tag prov path hinj a b d hab).2) d _ d (hperm.nodup_iff.mpr hkeys) (fun _ _ => rfl)]
  simp only [procKey_eq_fieldStep, hperm.mem_iff]

/-- the fields still to come (`fs = pre ++ rest`, keys distinct), one at a time; `ih` says what a
    clean run of a field's schema means -/
theorem noViolUFields_iff_of (env : Env) (m : Mode) (fs : Fields) (tag : Option String) (prov : Prov) (path : List String) (d : DVal)
    (ih : ∀ k fm s, fs.find k = some (k, fm, s) → s.WF → ∀ p v d', (proc env m s none p v d' {}).2.sink = [] ↔ NoViolU env m s none p v d') :
    ∀ (pre rest : Fields), fs = pre.append rest → rest.WF → (pre.keys ++ rest.keys).Nodup →
      ((∀ k ∈ rest.keys, (fieldStep env m fs tag prov path k d).2.sink = []) ↔ NoViolUFields env m tag prov path d rest)
  | _, .nil => fun _ _ _ => by unfold NoViolUFields; simp [Fields.keys]
  | pre, .cons k fm s rest => fun hfs hw hnd => by
    have hk : k ∉ pre.keys := fun hmem => (List.nodup_append.mp hnd).2.2 k hmem k (by simp [Fields.keys]) rfl
    have hf : fs.find k = some (k, fm, s) := hfs ▸ Fields.find_of_split pre k fm s rest hk
    unfold NoViolUFields
    simp only [Fields.keys, List.forall_mem_cons]
    rw [noViolUFields_iff_of env m fs tag prov path d ih (pre.snoc k fm s) rest (by rw [hfs, Fields.snoc_append]) hw.2
        (by rw [Fields.snoc_keys]; simpa [Fields.keys, List.append_assoc] using hnd),
      fieldStep_of_find env m tag prov path d hf, ih k fm s hf hw.1]

/-- **No issue iff no violation and no failing PostTransform**, for every well-formed schema.
    `Built.clean_iff` turns "a sequence ends clean" into "each step, run from the empty state, ends
    clean"; the fields of a struct commute (`procKey_comm`), so each may be judged on the destination
    the node started from (`fieldLoop_clean_iff`); `noViolUFields_iff_of` goes from fields found by key
    to the field list `NoViolUFields` recurses on. -/
theorem cleanU_iff (env : Env) (m : Mode) (s : Schema) :
    s.WF → ∀ (tag : Option String) (path : List String) (v : Val) (d : DVal),
      ((proc env m s tag path v d {}).2.sink = [] ↔ NoViolU env m s tag path v d) := by
  induction s using Schema.induct with
  | prim p =>
    intro _ tag path v d
    have := primBody_clean_iff env m p path v d {}
    simp only at this  -- `({} : St).sink` to `[]`
    unfold NoViolU
    simp only [proc_prim, prim, runPosts_clean_iff, this]
  | custom c =>
    intro _ tag path v d
    unfold NoViolU
    cases m <;> simp only [proc_custom]
    · cases c.accept v with
      | none => simp [emit]
      | some x => simp [customRun_clean_iff]
    · exact customRun_clean_iff env c _ d
  | ptr elem zp nn ih =>
    intro hw tag path v d
    unfold NoViolU
    simp only [proc_ptr]
    cases Engine.ptrAbsent m v d
    · exact ih hw tag path v (d.pointee zp)
    · cases nn <;> simp [emit]
  | pre ps inner ih =>
    intro hw tag path v d
    -- the inner node starts from a state that holds one event: clean either way
    have inner : ∀ v' d' (st : St), st.sink = [] → ((proc env m inner tag path v' d' st).2.sink = [] ↔
        NoViolU env m inner tag path v' d') := fun v' d' st hs => by
      rw [(proc_tame env m true inner (.inl rfl) tag path v' d').clean_iff st, ih hw tag path v' d']
      exact and_iff_right hs
    unfold NoViolU
    cases m <;> simp only [proc_pre]
    · cases ps.accept v
      · simp [emit]
      · rcases hr : ps.run v with ⟨v', e⟩
        cases e with
        | none => simpa using inner v' d _ rfl
        | some e => simp [emit]
    · rcases hr : ps.runD d with ⟨d', e⟩
      cases e with
      | none => simpa using inner v d' _ rfl
      | some e => simp [emit]
  | slice elem sm ih =>
    intro hw tag path v d
    rw [proc_slice_eq, runPosts_clean_iff]
    unfold NoViolU
    refine and_congr_left' ?_
    rw [sliceBody_eq]
    cases sliceSrc m sm v d with
    | skipped => simp
    | failed => simp [emit]
    | items ins ds => simp only [sliceItems_clean_iff, ih hw none]
  | struct fs tests posts ih =>
    intro ⟨hkeys, hinj, hwf⟩ tag path v d
    have fields := fun prov => (structFields_clean_iff env m fs tests tag prov path d hkeys hinj).trans
      (and_congr_left' (noViolUFields_iff_of env m fs tag prov path d (fun k fm s hf hw => ih k k fm s hf hw none) .nil fs rfl hwf hkeys))
    rw [proc_struct_eq, runPosts_clean_iff]
    unfold NoViolU
    refine and_congr_left' ?_
    unfold structBody
    cases m <;> simp only
    · cases provOf v with
      | none => simp [emit]
      | some prov => simpa using fields prov
    · exact fields .empty

theorem noViolUFields_iff (env : Env) (m : Mode) (fs : Fields) (tag : Option String) (prov : Prov) (path : List String) (d : DVal) :
    ∀ (pre rest : Fields), fs = pre.append rest → rest.WF → (pre.keys ++ rest.keys).Nodup →
      ((∀ k ∈ rest.keys, (fieldStep env m fs tag prov path k d).2.sink = []) ↔ NoViolUFields env m tag prov path d rest) :=
  noViolUFields_iff_of env m fs tag prov path d fun _ _ s _ hw => cleanU_iff env m s hw none

mutual
/-- every declared constraint held, at this node and below, on the value the node had when its tests
    ran (PostTransforms of the node itself run afterwards; those of its children before) -/
def ValidU (env : Env) (m : Mode) : Schema → Option String → List String → Val → DVal → Prop
  | .prim p, _, path, v, d => PrimSat m p v d (primBody env m p path v d {}).1
  | .custom c, _, _, v, d =>
    match m with
    | .validate => c.test.pred d = true
    | .parse => ∃ x, c.accept v = some x ∧ c.test.pred x = true
  | .ptr elem zp nn, tag, path, v, d =>
    if Engine.ptrAbsent m v d then nn = none
    else ValidU env m elem tag path v (d.pointee zp)
  | .pre ps inner, tag, path, v, d =>
    match m with
    | .parse => ps.accept v = true ∧ ∃ v', ps.run v = (v', none) ∧ ValidU env m inner tag path v' d
    | .validate => ∃ d', ps.runD d = (d', none) ∧ ValidU env m inner tag path v d'
  | .slice elem sm, _, path, v, d =>
    match sliceSrc m sm v d with
    | .skipped => True
    | .failed => False
    | .items ins ds =>
      (∀ x ∈ zipIdx3 ins ds 0, ValidU env m elem none (path ++ ["[" ++ toString x.2.2 ++ "]"]) x.1 x.2.1) ∧
      sm.tests.all (fun t => t.pred (sliceItems env m elem sm path ins ds {}).1) = true
  | .struct fs tests _, tag, path, v, d =>
    (match m with
     | .validate => ValidUFields env m tag .empty path d fs
     | .parse => ∃ prov, provOf v = some prov ∧ ValidUFields env m tag prov path d fs) ∧
    tests.all (fun t => t.pred (structBody env m fs tests tag path v d {}).1) = true
def ValidUFields (env : Env) (m : Mode) (tag : Option String) (prov : Prov) (path : List String) (d : DVal) : Fields → Prop
  | .nil => True
  | .cons k fm s rest =>
    ValidU env m s none (path ++ [fieldKeyOf m tag prov fm k]) (fieldInput m prov (fieldKeyOf m tag prov fm k)) (d.get fm.goName) ∧
    ValidUFields env m tag prov path d rest
end

mutual
theorem NoViolU.validU (env : Env) (m : Mode) :
    ∀ (s : Schema) (tag : Option String) (path : List String) (v : Val) (d : DVal),
      NoViolU env m s tag path v d → ValidU env m s tag path v d
  | .prim p => fun _ path v d h => primBody_sat env m p path v d {} ((primBody_clean_iff env m p path v d {}).mpr h.1)
  | .custom _ => fun _ _ _ _ h => h
  | .ptr elem zp nn => fun tag path v d h => by
    unfold NoViolU at h
    unfold ValidU
    split at h
    · simp [*]
    · simpa [*] using NoViolU.validU env m elem tag path v _ h
  | .pre ps inner => fun tag path v d h => by
    unfold NoViolU at h
    unfold ValidU
    cases m <;> simp only at h ⊢
    · exact ⟨h.1, h.2.imp fun v' h' => ⟨h'.1, NoViolU.validU env .parse inner tag path v' d h'.2⟩⟩
    · exact h.imp fun d' h' => ⟨h'.1, NoViolU.validU env .validate inner tag path v d' h'.2⟩
  | .slice elem sm => fun _ path v d h => by
    unfold NoViolU at h
    unfold ValidU
    cases hs : sliceSrc m sm v d <;> simp only [hs] at h ⊢
    · exact h.1
    · exact ⟨fun x hx => NoViolU.validU env m elem none _ x.1 x.2.1 (h.1.1 x hx), h.1.2⟩
  | .struct fs tests posts => fun tag path v d h => by
    unfold NoViolU at h
    unfold ValidU
    refine ⟨?_, h.1.2⟩
    cases m <;> simp only at h ⊢
    · exact h.1.1.imp fun prov h' => ⟨h'.1, NoViolUFields.validU env .parse tag prov path d fs h'.2⟩
    · exact NoViolUFields.validU env .validate tag .empty path d fs h.1.1
theorem NoViolUFields.validU (env : Env) (m : Mode) (tag : Option String) (prov : Prov) (path : List String) (d : DVal) :
    ∀ (fs : Fields), NoViolUFields env m tag prov path d fs → ValidUFields env m tag prov path d fs
  | .nil => fun _ => trivial
  | .cons k fm s rest => fun h => by
    unfold NoViolUFields at h
    unfold ValidUFields
    exact ⟨NoViolU.validU env m s none _ _ _ h.1, NoViolUFields.validU env m tag prov path d rest h.2⟩
end

/-- success means valid, at every depth, for every well-formed schema, PostTransforms included -/
theorem validU_of_clean (env : Env) (m : Mode) (s : Schema) (hw : s.WF) (tag : Option String) (path : List String) (v : Val) (d : DVal)
    (h : (proc env m s tag path v d {}).2.sink = []) : ValidU env m s tag path v d :=
  NoViolU.validU env m s tag path v d ((cleanU_iff env m s hw tag path v d).mp h)

theorem validUFields_of_clean (env : Env) (m : Mode) (fs : Fields) (tag : Option String) (prov : Prov) (path : List String) (d : DVal)
    (hclean : ∀ k ∈ fs.keys, (fieldStep env m fs tag prov path k d).2.sink = []) :
    ∀ (pre rest : Fields), fs = pre.append rest → rest.WF → (pre.keys ++ rest.keys).Nodup →
      ValidUFields env m tag prov path d rest :=
  fun pre rest hfs hw hnd => NoViolUFields.validU env m tag prov path d rest
    ((noViolUFields_iff env m fs tag prov path d pre rest hfs hw hnd).mp
      fun k hk => hclean k (by rw [hfs, Fields.keys_append]; exact List.mem_append_right _ hk))

mutual
/-- nothing is wrong at this node or below; for schemas without PostTransforms, so the tests are read
    off the final destination -/
def NoViol (env : Env) (m : Mode) : Schema → Option String → List String → Val → DVal → Prop
  | .prim p, _, _, v, d => PrimOK m p v d
  | .custom c, _, _, v, d =>
    match m with
    | .validate => c.test.pred d = true
    | .parse => ∃ x, c.accept v = some x ∧ c.test.pred x = true
  | .ptr elem zp nn, tag, path, v, d =>
    if Engine.ptrAbsent m v d then nn = none
    else NoViol env m elem tag path v (d.pointee zp)
  | .pre ps inner, tag, path, v, d =>
    match m with
    | .parse => ps.accept v = true ∧ ∃ v', ps.run v = (v', none) ∧ NoViol env m inner tag path v' d
    | .validate => ∃ d', ps.runD d = (d', none) ∧ NoViol env m inner tag path v d'
  | .slice elem sm, tag, path, v, d =>
    match sliceSrc m sm v d with
    | .skipped => True
    | .failed => False
    | .items ins ds =>
      (∀ x ∈ Engine.zipIdx3 ins ds 0, NoViol env m elem none (path ++ ["[" ++ toString x.2.2 ++ "]"]) x.1 x.2.1) ∧
      sm.tests.all (fun t => t.pred (proc env m (.slice elem sm) tag path v d {}).1) = true
  | .struct fs tests posts, tag, path, v, d =>
    (match m with
     | .validate => NoViolFields env m tag .empty path d fs
     | .parse => ∃ prov, Engine.provOf v = some prov ∧ NoViolFields env m tag prov path d fs) ∧
    tests.all (fun t => t.pred (proc env m (.struct fs tests posts) tag path v d {}).1) = true
def NoViolFields (env : Env) (m : Mode) (tag : Option String) (prov : Prov) (path : List String) (d : DVal) : Fields → Prop
  | .nil => True
  | .cons k fm s rest =>
    NoViol env m s none (path ++ [fieldKeyOf m tag prov fm k]) (fieldInput m prov (fieldKeyOf m tag prov fm k)) (d.get fm.goName) ∧
    NoViolFields env m tag prov path d rest
end

theorem proc_slice_postFree (env : Env) (m : Mode) (elem : Schema) (sm : SliceMods) (hp : sm.posts = []) (tag : Option String)
    (path : List String) (v : Val) (d : DVal) {ins : List Val} {ds : List DVal} (hs : sliceSrc m sm v d = .items ins ds) (st : St) :
    proc env m (.slice elem sm) tag path v d st = sliceItems env m elem sm path ins ds st := by
  rw [proc_slice_eq, hp, runPosts_nil, sliceBody_eq, hs]

theorem proc_struct_postFree (env : Env) (m : Mode) (fs : Fields) (tests : List Test) (tag : Option String) (path : List String)
    (v : Val) (d : DVal) (st : St) :
    proc env m (.struct fs tests []) tag path v d st = structBody env m fs tests tag path v d st := by
  rw [proc_struct_eq, runPosts_nil]

mutual
theorem noViolU_iff_noViol (env : Env) (m : Mode) :
    ∀ (s : Schema), s.postFree = true → ∀ (tag : Option String) (path : List String) (v : Val) (d : DVal),
      (NoViolU env m s tag path v d ↔ NoViol env m s tag path v d)
  | .prim p => fun hp _ path v d => by
    unfold NoViolU NoViol
    simp [Schema.postFree_prim.mp hp, PostsOK, postLoop]
  | .custom _ => fun _ _ _ _ _ => Iff.rfl
  | .ptr elem zp nn => fun hp tag path v d => by
    unfold NoViolU NoViol
    simp only [noViolU_iff_noViol env m elem hp]
  | .pre ps inner => fun hp tag path v d => by
    unfold NoViolU NoViol
    simp only [noViolU_iff_noViol env m inner hp]
  | .slice elem sm => fun hp tag path v d => by
    have hp := Schema.postFree_slice.mp hp
    unfold NoViolU NoViol
    simp only [hp.1, PostsOK, postLoop, and_true, noViolU_iff_noViol env m elem hp.2]
    cases hs : sliceSrc m sm v d with
    | items ins ds => simp only [proc_slice_postFree env m elem sm hp.1 tag path v d hs]
    | _ => rfl
  | .struct fs tests posts => fun hp tag path v d => by
    obtain ⟨rfl, hf⟩ := Schema.postFree_struct.mp hp
    unfold NoViolU NoViol
    simp only [PostsOK, postLoop, and_true, proc_struct_postFree, noViolUFields_iff_noViolFields env m _ _ _ _ fs hf]
theorem noViolUFields_iff_noViolFields (env : Env) (m : Mode) (tag : Option String) (prov : Prov) (path : List String) (d : DVal) :
    ∀ (fs : Fields), fs.postFree = true → (NoViolUFields env m tag prov path d fs ↔ NoViolFields env m tag prov path d fs)
  | .nil => fun _ => Iff.rfl
  | .cons k fm s rest => fun hp => by
    have hp := Fields.postFree_cons.mp hp
    unfold NoViolUFields NoViolFields
    simp only [noViolU_iff_noViol env m s hp.1, noViolUFields_iff_noViolFields env m tag prov path d rest hp.2]
end

/-- no issue iff no violation, at every depth, for PostTransform-free well-formed schemas -/
theorem clean_iff (env : Env) (m : Mode) (s : Schema) (hp : s.postFree = true) (hw : s.WF) (tag : Option String) (path : List String)
    (v : Val) (d : DVal) : (proc env m s tag path v d {}).2.sink = [] ↔ NoViol env m s tag path v d :=
  (cleanU_iff env m s hw tag path v d).trans (noViolU_iff_noViol env m s hp tag path v d)

theorem noViolFields_iff (env : Env) (m : Mode) (fs : Fields) (tag : Option String) (prov : Prov) (path : List String) (d : DVal) :
    ∀ (pre rest : Fields), fs = pre.append rest → rest.postFree = true → rest.WF → (pre.keys ++ rest.keys).Nodup →
      ((∀ k ∈ rest.keys, (fieldStep env m fs tag prov path k d).2.sink = []) ↔ NoViolFields env m tag prov path d rest) :=
  fun pre rest hfs hp hw hnd => (noViolUFields_iff env m fs tag prov path d pre rest hfs hw hnd).trans
    (noViolUFields_iff_noViolFields env m tag prov path d rest hp)

mutual
/-- every declared constraint holds at this node and below, on the values the schema placed or
    found in the destination (`d` is the destination the node started from) -/
def Valid (env : Env) (m : Mode) : Schema → Option String → List String → Val → DVal → Prop
  | .prim p, _, path, v, d => PrimSat m p v d (primBody env m p path v d {}).1
  | .custom c, _, _, v, d =>
    match m with
    | .validate => c.test.pred d = true
    | .parse => ∃ x, c.accept v = some x ∧ c.test.pred x = true
  | .ptr elem zp nn, tag, path, v, d =>
    if Engine.ptrAbsent m v d then nn = none
    else Valid env m elem tag path v (d.pointee zp)
  | .pre ps inner, tag, path, v, d =>
    match m with
    | .parse => ps.accept v = true ∧ ∃ v', ps.run v = (v', none) ∧ Valid env m inner tag path v' d
    | .validate => ∃ d', ps.runD d = (d', none) ∧ Valid env m inner tag path v d'
  | .slice elem sm, tag, path, v, d =>
    match sliceSrc m sm v d with
    | .skipped => True
    | .failed => False
    | .items ins ds =>
      (∀ x ∈ Engine.zipIdx3 ins ds 0, Valid env m elem none (path ++ ["[" ++ toString x.2.2 ++ "]"]) x.1 x.2.1) ∧
      sm.tests.all (fun t => t.pred (proc env m (.slice elem sm) tag path v d {}).1) = true
  | .struct fs tests posts, tag, path, v, d =>
    (match m with
     | .validate => ValidFields env m tag .empty path d fs
     | .parse => ∃ prov, Engine.provOf v = some prov ∧ ValidFields env m tag prov path d fs) ∧
    tests.all (fun t => t.pred (proc env m (.struct fs tests posts) tag path v d {}).1) = true
def ValidFields (env : Env) (m : Mode) (tag : Option String) (prov : Prov) (path : List String) (d : DVal) : Fields → Prop
  | .nil => True
  | .cons k fm s rest =>
    Valid env m s none (path ++ [fieldKeyOf m tag prov fm k]) (fieldInput m prov (fieldKeyOf m tag prov fm k)) (d.get fm.goName) ∧
    ValidFields env m tag prov path d rest
end

mutual
theorem validU_iff_valid (env : Env) (m : Mode) :
    ∀ (s : Schema), s.postFree = true → ∀ (tag : Option String) (path : List String) (v : Val) (d : DVal),
      (ValidU env m s tag path v d ↔ Valid env m s tag path v d)
  | .prim _ => fun _ _ _ _ _ => Iff.rfl
  | .custom _ => fun _ _ _ _ _ => Iff.rfl
  | .ptr elem zp nn => fun hp tag path v d => by
    unfold ValidU Valid
    simp only [validU_iff_valid env m elem hp]
  | .pre ps inner => fun hp tag path v d => by
    unfold ValidU Valid
    simp only [validU_iff_valid env m inner hp]
  | .slice elem sm => fun hp tag path v d => by
    have hp := Schema.postFree_slice.mp hp
    unfold ValidU Valid
    simp only [validU_iff_valid env m elem hp.2]
    cases hs : sliceSrc m sm v d with
    | items ins ds => simp only [proc_slice_postFree env m elem sm hp.1 tag path v d hs]
    | _ => rfl
  | .struct fs tests posts => fun hp tag path v d => by
    obtain ⟨rfl, hf⟩ := Schema.postFree_struct.mp hp
    unfold ValidU Valid
    simp only [proc_struct_postFree, validUFields_iff_validFields env m _ _ _ _ fs hf]
theorem validUFields_iff_validFields (env : Env) (m : Mode) (tag : Option String) (prov : Prov) (path : List String) (d : DVal) :
    ∀ (fs : Fields), fs.postFree = true → (ValidUFields env m tag prov path d fs ↔ ValidFields env m tag prov path d fs)
  | .nil => fun _ => Iff.rfl
  | .cons k fm s rest => fun hp => by
    have hp := Fields.postFree_cons.mp hp
    unfold ValidUFields ValidFields
    simp only [validU_iff_valid env m s hp.1, validUFields_iff_validFields env m tag prov path d rest hp.2]
end

/-- For a PostTransform-free, well-formed schema: if the execution of a node from the empty state
    records no issue, every declared constraint at that node and below holds on the values placed or
    found in the destination. -/
theorem valid_of_clean (env : Env) (m : Mode) (s : Schema) (hp : s.postFree = true) (hw : s.WF) (tag : Option String)
    (path : List String) (v : Val) (d : DVal) (h : (proc env m s tag path v d {}).2.sink = []) : Valid env m s tag path v d :=
  (validU_iff_valid env m s hp tag path v d).mp (validU_of_clean env m s hw tag path v d h)

theorem validFields_of_clean (env : Env) (m : Mode) (fs : Fields) (tag : Option String) (prov : Prov) (path : List String) (d : DVal)
    (hclean : ∀ k ∈ fs.keys, (fieldStep env m fs tag prov path k d).2.sink = []) :
    ∀ (pre rest : Fields), fs = pre.append rest → rest.postFree = true → rest.WF → (pre.keys ++ rest.keys).Nodup →
      ValidFields env m tag prov path d rest :=
  fun pre rest hfs hp hw hnd => (validUFields_iff_validFields env m tag prov path d rest hp).mp
    (validUFields_of_clean env m fs tag prov path d hclean pre rest hfs hw hnd)

end Spec
end Zog
