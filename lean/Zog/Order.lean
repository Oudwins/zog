import Zog.Loops

/-!
# Nothing depends on the order in which struct fields are visited   (C09)
For a well-formed schema (struct fields on distinct Go fields) two runs under different field visit
oracles agree: same destination, same issues and the same callback events up to order — for every
run from the empty state of a schema without PostTransforms, and for every such run of any schema
that records no issue (PostTransforms are gated on "no issue so far", so failing runs may differ: D19).
Both come from one induction over the traversal, `proc_sameIf`; what it needs of a struct is that
visits to different fields commute (`procKey_comm`, Zog/Loops.lean) and of the state that runs are local
(`Built.locality`).
-/

namespace Zog

def StEq (a b : St) : Prop := a.sink.Perm b.sink ∧ a.log.Perm b.log

theorem StEq.refl (a : St) : StEq a a := ⟨List.Perm.refl _, List.Perm.refl _⟩
theorem StEq.trans {a b c : St} (h1 : StEq a b) (h2 : StEq b c) : StEq a c := ⟨h1.1.trans h2.1, h1.2.trans h2.2⟩
theorem StEq.symm {a b : St} (h : StEq a b) : StEq b a := ⟨h.1.symm, h.2.symm⟩
theorem StEq.app {a b c d : St} (h1 : StEq a b) (h2 : StEq c d) : StEq (a.app c) (b.app d) :=
  ⟨List.Perm.append h1.1 h2.1, List.Perm.append h1.2 h2.2⟩
theorem StEq.app_comm (a b : St) : StEq (a.app b) (b.app a) := ⟨List.perm_append_comm, List.perm_append_comm⟩

def OutEq (o₁ o₂ : Spec.Out) : Prop := o₁.1 = o₂.1 ∧ StEq o₁.2 o₂.2


namespace Spec
open Engine (Prov orderOf)

theorem testAll_fmt (env₁ env₂ : Env) (hf : env₁.fmt = env₂.fmt) (dt ps : String) (tests : List Test) (x : DVal) :
    ∀ st, testAll env₁ dt ps tests x st = testAll env₂ dt ps tests x st := by
  induction tests with
  | nil => intro st; rfl
  | cons t ts ih => intro st; simp only [testAll, issueOfTest, hf, ih]

theorem postLoop_fmt (env₁ env₂ : Env) (hf : env₁.fmt = env₂.fmt) (dt ps : String) : ∀ (posts : List Post) (x : DVal) (st : St),
    postLoop env₁ dt ps posts x st = postLoop env₂ dt ps posts x st
  | [] => fun _ _ => rfl
  | p :: rest => fun x st => by
    simp only [postLoop]
    rcases p.run x with ⟨x', e⟩
    cases e with
    | none => exact postLoop_fmt env₁ env₂ hf dt ps rest x' _
    | some e => cases e <;> simp [issueOfPostErr, hf]

/-- a primitive node (PostTransforms included) looks at the environment only through the formatter -/
theorem prim_env (env₁ env₂ : Env) (hf : env₁.fmt = env₂.fmt) (m : Mode) (p : Prim)
    (path : List String) (v : Val) (d : DVal) (st : St) :
    prim env₁ m p path v d st = prim env₂ m p path v d st := by
  have hb : primBody env₁ m p path v d st = primBody env₂ m p path v d st := by
    unfold primBody tested
    simp only [issueOfTest, coerceIssue, hf, testAll_fmt env₁ env₂ hf]
  unfold prim runPosts
  rw [hb]
  split
  · exact postLoop_fmt env₁ env₂ hf _ _ _ _ _
  · rfl

/-- two runs from the empty state agree (same result, same issues and events up to order) wherever
    the first is clean where it matters. One-sided, but `StEq` carries `CleanIf` over, so it is
    transitive (`SameIf.trans`). -/
def SameIf (gated : Bool) {α : Type} (f₁ f₂ : St → α × St) : Prop :=
  CleanIf gated (f₁ {}).2 → (f₁ {}).1 = (f₂ {}).1 ∧ StEq (f₁ {}).2 (f₂ {}).2

theorem StEq.cleanIf {gated : Bool} {a b : St} (h : StEq a b) (ha : CleanIf gated a) : CleanIf gated b :=
  fun hg => List.Perm.eq_nil (ha hg ▸ h.1.symm)

section
variable {gated : Bool} {α β : Type}

theorem SameIf.refl (f : St → α × St) : SameIf gated f f := fun _ => ⟨rfl, StEq.refl _⟩

theorem SameIf.trans {f₁ f₂ f₃ : St → α × St} (h₁ : SameIf gated f₁ f₂) (h₂ : SameIf gated f₂ f₃) : SameIf gated f₁ f₃ :=
  fun h => ⟨(h₁ h).1.trans (h₂ (StEq.cleanIf (h₁ h).2 h)).1, StEq.trans (h₁ h).2 (h₂ (StEq.cleanIf (h₁ h).2 h)).2⟩

/-- the second steps must be built: locality is what lets a comparison made from the empty state be
    continued from where the first steps end -/
theorem SameIf.bind {f₁ f₂ : St → α × St} {g₁ g₂ : α → St → β × St} (hf : SameIf gated f₁ f₂)
    (hg : ∀ a, SameIf gated (g₁ a) (g₂ a)) (b₁ : ∀ a, Tame gated (g₁ a)) (b₂ : ∀ a, Tame gated (g₂ a)) :
    SameIf gated (fun st => g₁ (f₁ st).1 (f₁ st).2) (fun st => g₂ (f₂ st).1 (f₂ st).2) := by
  intro h
  obtain ⟨e₁, hc₁, hd₁⟩ := (b₁ _).locality _ (.inl h)
  obtain ⟨ha, hs⟩ := hf hc₁
  obtain ⟨hb, ht⟩ := hg _ hd₁
  rw [ha] at e₁ hb ht hd₁
  obtain ⟨e₂, -, -⟩ := (b₂ _).locality (f₂ {}).2 (.inr ⟨StEq.cleanIf hs hc₁, StEq.cleanIf ht hd₁⟩)
  simp only [ha, e₁, e₂]
  exact ⟨hb, StEq.app hs ht⟩

theorem SameIf.map {f₁ f₂ : St → α × St} (F : α → β) (hf : SameIf gated f₁ f₂) :
    SameIf gated (fun st => (F (f₁ st).1, (f₁ st).2)) (fun st => (F (f₂ st).1, (f₂ st).2)) :=
  fun h => ⟨congrArg F (hf h).1, (hf h).2⟩

theorem SameIf.afterLog {f₁ f₂ : St → α × St} (e : Event) (hf : SameIf gated f₁ f₂) (b₁ : Tame gated f₁)
    (b₂ : Tame gated f₂) :
    SameIf gated (fun st => f₁ { st with log := st.log ++ [e] }) (fun st => f₂ { st with log := st.log ++ [e] }) :=
  SameIf.bind (f₁ := fun st => ((), { st with log := st.log ++ [e] })) (SameIf.refl _) (fun _ => hf) (fun _ => b₁) (fun _ => b₂)

theorem sliceLoop_sameIf (c₁ c₂ : Child) (path : List String)
    (b₁ : ∀ seg v d, Tame gated (fun st => c₁ (path ++ [seg]) v d st))
    (b₂ : ∀ seg v d, Tame gated (fun st => c₂ (path ++ [seg]) v d st))
    (he : ∀ seg v d, SameIf gated (fun st => c₁ (path ++ [seg]) v d st) (fun st => c₂ (path ++ [seg]) v d st)) :
    ∀ (xs : List (Val × DVal × Nat)) (ds : List DVal),
      SameIf gated (fun st => sliceLoop c₁ path xs ds st) (fun st => sliceLoop c₂ path xs ds st)
  | [], _ => SameIf.refl _
  | x :: rest, ds =>
    SameIf.bind (he _ x.1 x.2.1) (fun a => sliceLoop_sameIf c₁ c₂ path b₁ b₂ he rest (ds ++ [a]))
      (fun _ => sliceLoop_built c₁ path b₁ rest _) (fun _ => sliceLoop_built c₂ path b₂ rest _)

theorem fieldLoop_sameIf (s₁ s₂ : String → DVal → St → Out) (b₁ : ∀ k d, Tame gated (fun st => s₁ k d st))
    (b₂ : ∀ k d, Tame gated (fun st => s₂ k d st)) (he : ∀ k d, SameIf gated (fun st => s₁ k d st) (fun st => s₂ k d st)) :
    ∀ (ks : List String) (d : DVal), SameIf gated (fun st => fieldLoop s₁ ks d st) (fun st => fieldLoop s₂ ks d st)
  | [], _ => SameIf.refl _
  | k :: ks, d =>
    SameIf.bind (he k d) (fun a => fieldLoop_sameIf s₁ s₂ b₁ b₂ he ks a)
      (fun a => fieldLoop_built s₁ b₁ ks a) (fun a => fieldLoop_built s₂ b₂ ks a)

/-- steps that commute on the destination and do not see each other's updates may be permuted -/
theorem fieldLoop_perm (step : String → DVal → St → Out) (hb : ∀ k d, Tame gated (fun st => step k d st))
    (hcomm : ∀ a b d, a ≠ b →
      (step b (step a d {}).1 {}).1 = (step a (step b d {}).1 {}).1 ∧
      (step b (step a d {}).1 {}).2 = (step b d {}).2)
    {ks₁ ks₂ : List String} (hp : ks₁.Perm ks₂) :
    ∀ d, SameIf gated (fun st => fieldLoop step ks₁ d st) (fun st => fieldLoop step ks₂ d st) := by
  induction hp with
  | nil => exact fun d => SameIf.refl _
  | @cons k l₁ l₂ _ ih =>
    exact fun d => SameIf.bind (SameIf.refl (fun st => step k d st)) ih (fun a => fieldLoop_built step hb l₁ a)
      (fun a => fieldLoop_built step hb l₂ a)
  | swap a b l =>
    intro d
    by_cases hab : a = b
    · subst hab; exact SameIf.refl _
    · -- the first two visits, in either order
      have two : SameIf gated (fun st => step a (step b d st).1 (step b d st).2) (fun st => step b (step a d st).1 (step a d st).2) := by
        intro h
        obtain ⟨e₁, hb₁, ha₁⟩ := (hb a _).locality _ (.inl h)
        rw [(hcomm b a d (Ne.symm hab)).2] at ha₁
        obtain ⟨e₂, -, -⟩ := (hb b (step a d {}).1).locality (step a d {}).2 (.inr ⟨ha₁, (hcomm a b d hab).2 ▸ hb₁⟩)
        simp only [e₁, e₂, (hcomm b a d (Ne.symm hab)).2, (hcomm a b d hab).2, (hcomm a b d hab).1]
        exact ⟨trivial, StEq.app_comm _ _⟩
      exact SameIf.bind two (fun c => SameIf.refl _) (fun c => fieldLoop_built step hb l c) (fun c => fieldLoop_built step hb l c)
  | trans _ _ ih₁ ih₂ => exact fun d => (ih₁ d).trans (ih₂ d)

theorem runPosts_sameIf (env₁ env₂ : Env) (hf : env₁.fmt = env₂.fmt) (dt ps : String) (posts : List Post) (hg : gated = true ∨ posts = [])
    {body₁ body₂ : St → Out} (hb : SameIf gated body₁ body₂) :
    SameIf gated (fun st => runPosts env₁ dt ps posts (body₁ st)) (fun st => runPosts env₂ dt ps posts (body₂ st)) := by
  rcases hg with hg | rfl
  · have gate : ∀ (env : Env) a, Tame gated (fun st => gatePosts env dt ps posts a st) := fun env a =>
      gatePosts_built dt ps posts a hg (fun _ _ _ _ _ => trivial) (fun _ _ _ => trivial)
    refine SameIf.bind hb (fun a => ?_) (gate env₁) (gate env₂)
    simp only [gatePosts, postLoop_fmt env₁ env₂ hf]
    exact SameIf.refl _
  · simpa only [runPosts_nil] using hb

end

theorem testAll_sameIf {gated : Bool} {α : Type} (env₁ env₂ : Env) (hf : env₁.fmt = env₂.fmt) (dt ps : String) (tests : List Test)
    (F : α → DVal) {f₁ f₂ : St → α × St} (h : SameIf gated f₁ f₂) :
    SameIf gated (fun st => (F (f₁ st).1, testAll env₁ dt ps tests (F (f₁ st).1) (f₁ st).2))
      (fun st => (F (f₂ st).1, testAll env₂ dt ps tests (F (f₂ st).1) (f₂ st).2)) := by
  have tb : ∀ (env : Env) r, Tame gated _ := fun env r =>
    testAll_built (env := env) (F r) dt ps (F r) tests (fun _ _ => trivial) (fun _ _ => trivial)
  refine SameIf.bind h (fun r => ?_) (tb env₁) (tb env₂)
  simp only [testAll_fmt env₁ env₂ hf]
  exact SameIf.refl _

theorem procKey_sameIf_of {gated : Bool} {env₁ env₂ : Env} (m : Mode) (fs : Fields) (key : String) (tag : Option String) (prov : Prov)
    (path : List String) (d : DVal)
    (h : ∀ k fm s, fs.find key = some (k, fm, s) → ∀ p v d,
      SameIf gated (fun st => proc env₁ m s none p v d st) (fun st => proc env₂ m s none p v d st)) :
    SameIf gated (fun st => procKey env₁ m fs key tag prov path d st) (fun st => procKey env₂ m fs key tag prov path d st) := by
  simp only [procKey_find]
  cases hf : fs.find key with
  | none => exact SameIf.refl _
  | some r =>
    obtain ⟨k, fm, s⟩ := r
    exact (h k fm s hf _ _ _).map (fun x => d.set fm.goName x)

/-- **Nothing depends on the visit order**: for a well-formed schema without PostTransforms the two
    runs agree; with PostTransforms they agree once the first records no issue. -/
theorem proc_sameIf (fmt : String → String → List (String × String) → String) (ω₁ ω₂ : String → List String) (m : Mode) (gated : Bool)
    (s : Schema) : (gated = true ∨ s.postFree = true) → s.WF → ∀ (tag : Option String) (path : List String) (v : Val) (d : DVal),
      SameIf gated (fun st => proc ⟨fmt, ω₁⟩ m s tag path v d st) (fun st => proc ⟨fmt, ω₂⟩ m s tag path v d st) := by
  induction s using Schema.induct with
  | prim p =>
    intro _ _ tag path v d
    simp only [proc_prim, prim_env ⟨fmt, ω₁⟩ ⟨fmt, ω₂⟩ rfl]
    exact SameIf.refl _
  | custom c =>
    intro _ _ tag path v d
    have e : ∀ st, proc ⟨fmt, ω₁⟩ m (.custom c) tag path v d st = proc ⟨fmt, ω₂⟩ m (.custom c) tag path v d st :=
      fun st => by simp only [proc_custom]; rfl
    simp only [e]
    exact SameIf.refl _
  | ptr elem zp nn ih =>
    intro hg hw tag path v d
    simp only [proc_ptr]
    cases Engine.ptrAbsent m v d <;> simp only [Bool.false_eq_true, ↓reduceIte]
    · exact (ih hg hw tag path v _).map (fun x => DVal.ptr (some x))
    · cases nn <;> exact SameIf.refl _
  | slice elem sm ih =>
    intro hg hw tag path v d
    obtain ⟨hposts, helem⟩ := Schema.gate_slice hg
    simp only [proc_slice_eq, sliceBody_eq]
    refine runPosts_sameIf ⟨fmt, ω₁⟩ ⟨fmt, ω₂⟩ rfl _ _ sm.posts hposts ?_
    cases sliceSrc m sm v d with
    | items ins ds =>
      exact testAll_sameIf ⟨fmt, ω₁⟩ ⟨fmt, ω₂⟩ rfl "slice" (render path) sm.tests DVal.slice
        (sliceLoop_sameIf _ _ path (fun _ v d => proc_tame ⟨fmt, ω₁⟩ m gated elem helem none _ v d)
          (fun _ v d => proc_tame ⟨fmt, ω₂⟩ m gated elem helem none _ v d)
          (fun _ v d => ih helem hw none _ v d) _ _)
    | _ => exact SameIf.refl _
  | struct fs tests posts ih =>
    intro hg ⟨_, hinj, hwf⟩ tag path v d
    obtain ⟨hposts, hfs⟩ := Schema.gate_struct hg
    simp only [proc_struct_eq, structBody_eq]
    refine runPosts_sameIf ⟨fmt, ω₁⟩ ⟨fmt, ω₂⟩ rfl _ _ posts hposts ?_
    cases structProv m v with
    | none => exact SameIf.refl _
    | some prov =>
      have b := fun (ω : String → List String) k d => procKey_tame ⟨fmt, ω⟩ m gated fs hfs k tag prov path d
      -- the two environments on one key list, then the two key lists in one environment
      exact testAll_sameIf ⟨fmt, ω₁⟩ ⟨fmt, ω₂⟩ rfl "struct" (render path) tests id
        ((fieldLoop_sameIf _ _ (b ω₁) (b ω₂) (fun key d => procKey_sameIf_of m fs key tag prov path d fun k fm s hf =>
              ih key k fm s hf (Fields.gate_find hf hfs) (Fields.find_wf fs key k fm s hwf hf) none)
            (orderOf (ω₁ (render path)) fs.keys) d).trans
          (fieldLoop_perm _ (b ω₂) (procKey_comm ⟨fmt, ω₂⟩ m fs tag prov path hinj)
            ((orderOf_perm _ _).trans (orderOf_perm _ _).symm) d))
  | pre ps inner ih =>
    intro hg hw tag path v d
    have ih := fun v d (e : Event) => (ih hg hw tag path v d).afterLog e
      (proc_tame ⟨fmt, ω₁⟩ m gated inner hg tag path v d) (proc_tame ⟨fmt, ω₂⟩ m gated inner hg tag path v d)
    cases m <;> simp only [proc_pre]
    · cases ps.accept v <;> simp only [Bool.false_eq_true, ↓reduceIte]
      · exact SameIf.refl _
      · rcases ps.run v with ⟨v', e⟩
        cases e with
        | none => exact ih v' d _
        | some e => exact SameIf.refl _
    · rcases ps.runD d with ⟨d', e⟩
      cases e with
      | none => exact ih v d' _
      | some e => exact SameIf.refl _

theorem procKey_sameIf (fmt : String → String → List (String × String) → String) (ω₁ ω₂ : String → List String) (m : Mode) (gated : Bool)
    (fs : Fields) (hg : gated = true ∨ fs.postFree = true) (hw : fs.WF) (key : String) (tag : Option String) (prov : Prov)
    (path : List String) (d : DVal) :
    SameIf gated (fun st => procKey ⟨fmt, ω₁⟩ m fs key tag prov path d st) (fun st => procKey ⟨fmt, ω₂⟩ m fs key tag prov path d st) :=
  procKey_sameIf_of m fs key tag prov path d fun k fm s hf =>
    proc_sameIf fmt ω₁ ω₂ m gated s (Fields.gate_find hf hg) (Fields.find_wf fs key k fm s hw hf) none

/-- For a PostTransform-free, well-formed schema the destination is the same and the issues / callback
    events are the same up to order, whatever the two visit oracles are. -/
theorem proc_order_indep (fmt : String → String → List (String × String) → String) (ω₁ ω₂ : String → List String) (m : Mode)
    (s : Schema) (hp : s.postFree = true) (hw : s.WF) (tag : Option String) (path : List String) (v : Val) (d : DVal) :
    OutEq (proc ⟨fmt, ω₁⟩ m s tag path v d {}) (proc ⟨fmt, ω₂⟩ m s tag path v d {}) :=
  proc_sameIf fmt ω₁ ω₂ m false s (.inr hp) hw tag path v d nofun

theorem procKey_order_indep (fmt : String → String → List (String × String) → String) (ω₁ ω₂ : String → List String) (m : Mode) :
    ∀ (fs : Fields), fs.postFree = true → fs.WF → ∀ (key : String) (tag : Option String) (prov : Prov) (path : List String) (d : DVal),
      OutEq (procKey ⟨fmt, ω₁⟩ m fs key tag prov path d {}) (procKey ⟨fmt, ω₂⟩ m fs key tag prov path d {}) :=
  fun fs hp hw key tag prov path d => procKey_sameIf fmt ω₁ ω₂ m false fs (.inr hp) hw key tag prov path d nofun

def CleanEq {α : Type} (o₁ o₂ : α × St) : Prop :=
  o₁.2.sink = [] → (o₂.2.sink = [] ∧ o₁.1 = o₂.1 ∧ o₁.2.log.Perm o₂.2.log)


theorem SameIf.cleanEq {α : Type} {f₁ f₂ : St → α × St} (h : SameIf true f₁ f₂) : CleanEq (f₁ {}) (f₂ {}) :=
  fun hc => ⟨(StEq.cleanIf (h fun _ => hc).2 fun _ => hc) rfl, (h fun _ => hc).1, (h fun _ => hc).2.2⟩

/-- Every well-formed schema, PostTransforms included: if the execution under one visit oracle records
    no issue, the execution under any other records none either, leaves the same destination and runs
    the same callbacks (up to order). -/
theorem proc_success_order_indep (fmt : String → String → List (String × String) → String) (ω₁ ω₂ : String → List String) (m : Mode)
    (s : Schema) (hw : s.WF) (tag : Option String) (path : List String) (v : Val) (d : DVal) :
    CleanEq (proc ⟨fmt, ω₁⟩ m s tag path v d {}) (proc ⟨fmt, ω₂⟩ m s tag path v d {}) :=
  (proc_sameIf fmt ω₁ ω₂ m true s (.inl rfl) hw tag path v d).cleanEq

theorem procKey_success_order_indep (fmt : String → String → List (String × String) → String) (ω₁ ω₂ : String → List String) (m : Mode) :
    ∀ (fs : Fields), fs.WF → ∀ (key : String) (tag : Option String) (prov : Prov) (path : List String) (d : DVal),
      CleanEq (procKey ⟨fmt, ω₁⟩ m fs key tag prov path d {}) (procKey ⟨fmt, ω₂⟩ m fs key tag prov path d {}) :=
  fun fs hw key tag prov path d => (procKey_sameIf fmt ω₁ ω₂ m true fs (.inl rfl) hw key tag prov path d).cleanEq

end Spec
end Zog
