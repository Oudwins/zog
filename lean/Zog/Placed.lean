import Zog.Exact

/-!
# What a clean Parse leaves in the destination, at every depth  (C03)

`Placed s tag v d out` says — without mentioning paths, issues, states or visit order — what the
destination `out` must be after a successful Parse of input `v` into the destination `d`:
leaves hold the coercion of the input at the corresponding key or index (or the Default of an
absent leaf, or the node's Catch value), slices have the input's length and order, absent optional
nodes are untouched (nil pointers stay nil), present pointers are allocated, and struct fields the
schema does not name are not written.  `NoViol.placed` derives it node by node from `NoViol` for
every PostTransform-free, well-formed schema (`placed_of_clean`: from a run without issues, by
`clean_iff`); the traversal enters only through what a slice loop (`sliceLoop_dest`) and a field
loop (`fieldLoop_dest`, `fieldFold_get_own`) leave in the destination (Zog/Loops.lean).
-/

namespace Zog

namespace Spec
open Engine (Prov)

/-- a primitive leaf after a clean Parse -/
def PrimPlaced (p : Prim) (v : Val) (d out : DVal) : Prop :=
  p.ctch = some out ∨
  (isParseZero v = true ∧ (p.dflt = some out ∨ (p.dflt = none ∧ p.required = none ∧ out = d))) ∨
  (isParseZero v = false ∧ p.coerce v = some out)

mutual
def Placed : Schema → Option String → Val → DVal → DVal → Prop
  | .prim p, _, v, d, out => PrimPlaced p v d out
  | .custom c, _, v, _, out => c.accept v = some out
  | .ptr elem zp nn, tag, v, d, out =>
      if isParseZero v then out = d ∧ nn = none
      else ∃ o, out = .ptr (some o) ∧ Placed elem tag v (d.pointee zp) o
  | .pre ps inner, tag, v, d, out =>
      ps.accept v = true ∧ ∃ v', ps.run v = (v', none) ∧ Placed inner tag v' d out
  | .slice elem sm, _, v, d, out =>
      match sliceSrc .parse sm v d with
      | .skipped => out = d
      | .failed => False
      | .items ins _ =>
        ∃ outs, out = .slice outs ∧ outs.length = ins.length ∧ ∀ x ∈ ins.zip outs, Placed elem none x.1 sm.zeroElem x.2
  | .struct fs _ _, tag, v, d, out =>
      ∃ prov, Engine.provOf v = some prov ∧ (∀ n, n ∉ fs.goNames → out.get n = d.get n) ∧
        (∀ n, out.has n = d.has n) ∧ PlacedFields tag prov d out fs
def PlacedFields (tag : Option String) (prov : Prov) (d out : DVal) : Fields → Prop
  | .nil => True
  | .cons k fm s rest =>
      (∃ c, Placed s none (prov.get (prov.keyFor tag fm k)) (d.get fm.goName) c ∧
            out.get fm.goName = if d.has fm.goName then c else d.get fm.goName) ∧
      PlacedFields tag prov d out rest
end

theorem tested_dest_cases (env : Env) (dt ps : String) (ctch : Option DVal) (tests : List Test) (x : DVal) (st : St) :
    (tested env dt ps ctch tests x st).1 = x ∨ ctch = some (tested env dt ps ctch tests x st).1 := by
  unfold tested
  cases ctch with
  | none => exact .inl rfl
  | some c =>
    rw [testCatch_dest]
    split
    · exact .inl rfl
    · exact .inr rfl

theorem primBody_placed (env : Env) (p : Prim) (path : List String) (v : Val) (d : DVal) (st : St)
    (h : (primBody env .parse p path v d st).2.sink = st.sink) :
    PrimPlaced p v d (primBody env .parse p path v d st).1 := by
  refine primBody_cases (motive := fun f => (f st).2.sink = st.sink → PrimPlaced p v d (f st).1) env .parse p path v d
    (fun x hx _ => ?_) (fun ha hd hr _ => .inr (.inl ⟨ha, .inr ⟨hd, hr, rfl⟩⟩)) (fun i _ h => ?_) h
  · exact (tested_dest_cases env _ _ p.ctch p.tests x st).elim
      (fun e => e.symm ▸ .inr (hx.imp (fun h => ⟨h.1, .inl h.2⟩) id)) .inl
  · cases hc : p.ctch with
    | some c => exact .inl hc
    | none => simp [hc, emit] at h

/-- Parse starts every element from the zero value of the element type -/
theorem sliceSrc_parse_items {sm : SliceMods} {v : Val} {d : DVal} {ins : List Val} {ds : List DVal}
    (h : sliceSrc .parse sm v d = .items ins ds) : ds = ins.map fun _ => sm.zeroElem := by
  unfold sliceSrc at h
  simp only at h
  split at h
  · cases hd : sm.dfltIn <;> simp only [hd] at h
    · split at h <;> cases h
    · cases h; rfl
  · cases hc : sm.coerce v <;> simp only [hc] at h
    · cases h
    · cases h; rfl

/-- the fields of a struct, given of each field found what its schema places (`placed`) and that
    `out` holds, under the field's Go name, what that schema made of the value `d` had there (`own`) -/
theorem NoViolFields.placed (env : Env) (tag : Option String) (prov : Prov) (path : List String) (d out : DVal) :
    ∀ (fs : Fields), fs.keys.Nodup → NoViolFields env .parse tag prov path d fs →
      (∀ k fm s, fs.find k = some (k, fm, s) →
        (∀ p v d', NoViol env .parse s none p v d' → Placed s none v d' (proc env .parse s none p v d' {}).1) ∧
        out.get fm.goName =
          if d.has fm.goName then
            (proc env .parse s none (path ++ [fieldKeyOf .parse tag prov fm k]) (fieldInput .parse prov (fieldKeyOf .parse tag prov fm k))
              (d.get fm.goName) {}).1
          else d.get fm.goName) →
      PlacedFields tag prov d out fs
  | .nil => fun _ _ _ => trivial
  | .cons k fm s rest => fun hnd h found => by
    obtain ⟨hk, hnd⟩ := List.nodup_cons.mp hnd
    obtain ⟨placed, own⟩ := found k fm s (by simp [Fields.find])
    refine ⟨⟨_, placed _ _ _ h.1, own⟩, NoViolFields.placed env tag prov path d out rest hnd h.2 fun k' fm' s' hf => found k' fm' s' ?_⟩
    have : k ≠ k' := fun e => hk (e ▸ find_mem_keys rest k' k' fm' s' hf)
    simpa [Fields.find, this] using hf

/-- where nothing is wrong the destination is `Placed`: node by node from `NoViol`, with the
    destination of each node read off its equation -/
theorem NoViol.placed (env : Env) (s : Schema) :
    s.postFree = true → s.WF → ∀ (tag : Option String) (path : List String) (v : Val) (d : DVal),
      NoViol env .parse s tag path v d → Placed s tag v d (proc env .parse s tag path v d {}).1 := by
  induction s using Schema.induct with
  | prim p =>
    intro hp _ tag path v d h
    simp only [proc_prim, prim, Schema.postFree_prim.mp hp, runPosts_nil, Placed]
    exact primBody_placed env p path v d {} ((primBody_clean_iff env .parse p path v d {}).mpr h)
  | custom c =>
    intro _ _ tag path v d h
    simp only [NoViol] at h
    obtain ⟨x, hx, _⟩ := h
    simp only [proc_custom, hx, customRun, Placed]
    split <;> rfl
  | ptr elem zp nn ih =>
    intro hp hw tag path v d h
    simp only [NoViol] at h
    simp only [proc_ptr, Placed]
    cases ha : isParseZero v <;> simp only [Engine.ptrAbsent, ha, Bool.false_eq_true, ↓reduceIte] at h ⊢
    · exact ⟨_, rfl, ih hp hw tag path v _ h⟩
    · subst h; exact ⟨rfl, rfl⟩
  | pre ps inner ih =>
    intro hp hw tag path v d h
    simp only [NoViol] at h
    obtain ⟨ha, v', hr, h⟩ := h
    have loc : ∀ st, proc env .parse inner tag path v' d st = _ := (proc_tame env .parse false inner (.inr hp) tag path v' d).local
    simp only [proc_pre, ha, hr, ↓reduceIte, Placed, true_and]
    rw [loc]
    exact ⟨v', rfl, ih hp hw tag path v' d h⟩
  | slice elem sm ih =>
    intro hp hw tag path v d h
    have hp := Schema.postFree_slice.mp hp
    simp only [NoViol] at h
    simp only [proc_slice_eq, hp.1, runPosts_nil, sliceBody_eq, Placed]
    cases hs : sliceSrc .parse sm v d with
    | skipped => rfl
    | failed => simp only [hs] at h
    | items ins ds =>
      simp only [hs] at h
      obtain rfl := sliceSrc_parse_items hs
      refine ⟨_, congrArg DVal.slice (sliceLoop_dest _ path (fun _ v d => proc_tame env .parse false elem (.inr hp.2) none _ v d) _ []), ?_, ?_⟩
      · simp [Engine.zipIdx3_length]
      · intro x hx
        obtain ⟨y, hy, hd, rfl⟩ := mem_zip_zipIdx3 _ _ _ _ x hx
        obtain ⟨_, _, e⟩ := List.mem_map.mp hd
        rw [e]
        exact ih hp.2 hw none _ y.1 y.2.1 (h.1 y hy)
  | struct fs tests posts ih =>
    intro hp ⟨hkeys, hinj, hwf⟩ tag path v d h
    have hp := Schema.postFree_struct.mp hp
    simp only [NoViol] at h
    obtain ⟨⟨prov, hpv, hfs⟩, _⟩ := h
    have hperm := orderOf_perm (env.ω (render path)) fs.keys
    simp only [proc_struct_eq, hp.1, runPosts_nil, structBody_eq, structProv, hpv, structFields, Placed]
    rw [fieldLoop_dest _ (fun k d => procKey_tame env .parse false fs (.inr hp.2) k tag prov path d)]
    simp only [procKey_eq_fieldStep]
    refine ⟨prov, rfl, fun n hn => ?_, fun n => ?_, NoViolFields.placed env tag prov path d _ fs hkeys hfs fun k fm s hf =>
      ⟨ih k k fm s hf (Fields.find_postFree fs k k fm s hp.2 hf) (Fields.find_wf fs k k fm s hwf hf) none, ?_⟩⟩
    · exact foldl_keeps _ (·.get n) _ d fun k _ a => fieldStep_keeps (·.get n) env .parse fs tag prov path k a
        fun k' fm s hf c => DVal.get_set_other a _ _ c fun e => hn (e ▸ fs.find_goName_mem k k' fm s hf)
    · exact foldl_keeps _ (·.has n) _ d fun k _ a => fieldStep_keeps (·.has n) env .parse fs tag prov path k a
        fun _ _ _ _ c => DVal.has_set a _ _ c
    · exact fieldFold_get_own env .parse fs tag prov path hinj hf _ d (hperm.nodup_iff.mpr hkeys)
        (hperm.mem_iff.mpr (find_mem_keys fs k k fm s hf))

/-- **C03 at every depth.** For a PostTransform-free, well-formed schema: if Parse records no
    issue, the destination is `Placed`. -/
theorem placed_of_clean (env : Env) :
    ∀ (s : Schema), s.postFree = true → s.WF → ∀ (tag : Option String) (path : List String) (v : Val) (d : DVal),
      (proc env .parse s tag path v d {}).2.sink = [] → Placed s tag v d (proc env .parse s tag path v d {}).1 :=
  fun s hp hw tag path v d h => NoViol.placed env s hp hw tag path v d ((clean_iff env .parse s hp hw tag path v d).mp h)

theorem placedFound_of_clean (env : Env) :
    ∀ (fs : Fields), fs.postFree = true → fs.WF → ∀ (key k : String) (fm : FieldMeta) (s : Schema), fs.find key = some (k, fm, s) →
      ∀ (path : List String) (v : Val) (d : DVal),
      (proc env .parse s none path v d {}).2.sink = [] → Placed s none v d (proc env .parse s none path v d {}).1 :=
  fun fs hp hw key k fm s hf =>
    placed_of_clean env s (Fields.find_postFree fs key k fm s hp hf) (Fields.find_wf fs key k fm s hw hf) none

end Spec
end Zog
