import Zog.Traversal

/-!
# The two child loops
What a slice loop and a struct's field loop do when their children are built (`Tame`): the total is
clean iff every child's run from the empty state is (`sliceLoop_clean_iff`, `fieldLoop_clean_iff`),
and, where there is no gate, the destination is what the children's runs from the empty state leave
(`sliceLoop_dest`, `fieldLoop_dest`). For a struct on distinct Go fields, visits to different fields
commute and do not see each other's updates (`fieldStep_comm`, `procKey_comm`), so each field may be judged on the destination the
loop started from (`fieldFold_get_own`). A new kind of node with children needs its loop's
counterparts of these.
-/

namespace Zog
namespace Spec
open Engine (Prov)

/-- a field visit from the empty state, by the field found for the key: `procKey … {}`
    (`procKey_eq_fieldStep`), in the form the statements about single fields use -/
def fieldStep (env : Env) (m : Mode) (fs : Fields) (tag : Option String) (prov : Prov) (path : List String)
    (key : String) (d : DVal) : Out :=
  match fs.find key with
  | none => (d, {})
  | some (k, fm, s) =>
    let fieldKey := match m with
      | .parse => prov.keyFor tag fm k
      | .validate => Engine.keyFor none fm k
    let sv := match m with
      | .parse => prov.get fieldKey
      | .validate => Val.nil
    let c := proc env m s none (path ++ [fieldKey]) sv (d.get fm.goName) {}
    (d.set fm.goName c.1, c.2)

theorem fieldStep_of_find (env : Env) (m : Mode) (tag : Option String) (prov : Prov) (path : List String) (d : DVal)
    {fs : Fields} {key k : String} {fm : FieldMeta} {s : Schema} (hf : fs.find key = some (k, fm, s)) :
    fieldStep env m fs tag prov path key d =
      (d.set fm.goName (proc env m s none (path ++ [fieldKeyOf m tag prov fm k]) (fieldInput m prov (fieldKeyOf m tag prov fm k)) (d.get fm.goName) {}).1,
       (proc env m s none (path ++ [fieldKeyOf m tag prov fm k]) (fieldInput m prov (fieldKeyOf m tag prov fm k)) (d.get fm.goName) {}).2) := by
  unfold fieldStep
  rw [hf]
  cases m <;> rfl

theorem procKey_eq_fieldStep (env : Env) (m : Mode) (tag : Option String) (prov : Prov) (path : List String) (key : String) (d : DVal)
    (fs : Fields) : procKey env m fs key tag prov path d {} = fieldStep env m fs tag prov path key d := by
  rw [procKey_find]
  cases hf : fs.find key with
  | none => simp only [fieldStep, hf]
  | some r => exact (fieldStep_of_find env m tag prov path d hf).symm

/-- visiting two different fields in either order gives the same destination, and neither field's
    issues depend on the other's update -/
theorem fieldStep_comm (env : Env) (m : Mode) (fs : Fields) (tag : Option String) (prov : Prov) (path : List String)
    (hinj : fs.GoNamesInj) (a b : String) (d : DVal) (hab : a ≠ b) :
    (fieldStep env m fs tag prov path b (fieldStep env m fs tag prov path a d).1).1 =
      (fieldStep env m fs tag prov path a (fieldStep env m fs tag prov path b d).1).1 ∧
    (fieldStep env m fs tag prov path b (fieldStep env m fs tag prov path a d).1).2 =
      (fieldStep env m fs tag prov path b d).2 := by
  unfold fieldStep
  cases ha : fs.find a with
  | none => cases hb : fs.find b <;> simp
  | some ra =>
    obtain ⟨ka, fma, sa⟩ := ra
    cases hb : fs.find b with
    | none => simp
    | some rb =>
      obtain ⟨kb, fmb, sb⟩ := rb
      have hg : fma.goName ≠ fmb.goName := hinj a b ka fma sa kb fmb sb ha hb hab
      simp only
      rw [DVal.get_set_other _ _ _ _ (Ne.symm hg), DVal.get_set_other _ _ _ _ hg]
      exact ⟨DVal.set_comm _ _ _ _ _ hg, rfl⟩

/-- `fieldStep_comm` as the field loops meet it: `procKey` from the empty state -/
theorem procKey_comm (env : Env) (m : Mode) (fs : Fields) (tag : Option String) (prov : Prov) (path : List String)
    (hinj : fs.GoNamesInj) (a b : String) (d : DVal) (hab : a ≠ b) :
    (procKey env m fs b tag prov path (procKey env m fs a tag prov path d {}).1 {}).1 =
      (procKey env m fs a tag prov path (procKey env m fs b tag prov path d {}).1 {}).1 ∧
    (procKey env m fs b tag prov path (procKey env m fs a tag prov path d {}).1 {}).2 =
      (procKey env m fs b tag prov path d {}).2 := by
  simpa only [procKey_eq_fieldStep] using fieldStep_comm env m fs tag prov path hinj a b d hab

theorem sliceLoop_clean_iff (child : Child) (path : List String)
    (hc : ∀ seg v d, Tame true (fun st => child (path ++ [seg]) v d st)) :
    ∀ (xs : List (Val × DVal × Nat)) (ds : List DVal), ((sliceLoop child path xs ds {}).2.sink = [] ↔
      ∀ x ∈ xs, (child (path ++ ["[" ++ toString x.2.2 ++ "]"]) x.1 x.2.1 {}).2.sink = [])
  | [], _ => by simp [sliceLoop]
  | y :: rest, ds => by
    simp only [sliceLoop, List.forall_mem_cons]
    rw [(sliceLoop_built child path hc rest _).clean_iff, sliceLoop_clean_iff child path hc rest]

/-- for steps that do not see each other's updates (a struct's fields), visiting other keys first
    does not change what a key contributes; `d0` is the destination the loop started from -/
theorem fieldLoop_clean_iff (step : String → DVal → St → Out) (hb : ∀ k d, Tame true (fun st => step k d st))
    (hcomm : ∀ a b d, a ≠ b → (step b (step a d {}).1 {}).2 = (step b d {}).2) (d0 : DVal) :
    ∀ (ks : List String) (d : DVal), ks.Nodup → (∀ k ∈ ks, (step k d {}).2 = (step k d0 {}).2) →
      ((fieldLoop step ks d {}).2.sink = [] ↔ ∀ k ∈ ks, (step k d0 {}).2.sink = [])
  | [] => fun _ _ _ => by simp [fieldLoop]
  | a :: ks => fun d hnd hfr => by
    obtain ⟨hna, hnd'⟩ := List.nodup_cons.mp hnd
    have ih := fieldLoop_clean_iff step hb hcomm d0 ks (step a d {}).1 hnd' fun b hb' => by
      rw [hcomm a b d fun e => hna (e ▸ hb')]
      exact hfr b (List.mem_cons_of_mem _ hb')
    simp only [fieldLoop]
    rw [(fieldLoop_built step hb ks _).clean_iff, ih, hfr a List.mem_cons_self, List.forall_mem_cons]

theorem sliceLoop_dest (child : Child) (path : List String) (hc : ∀ seg v d, Tame false (fun st => child (path ++ [seg]) v d st)) :
    ∀ (xs : List (Val × DVal × Nat)) (acc : List DVal),
      (sliceLoop child path xs acc {}).1 =
        acc ++ xs.map (fun x => (child (path ++ ["[" ++ toString x.2.2 ++ "]"]) x.1 x.2.1 {}).1)
  | [], acc => by simp [sliceLoop]
  | x :: rest, acc => by
    show (sliceLoop child path rest (acc ++ [(child _ x.1 x.2.1 {}).1]) (child _ x.1 x.2.1 {}).2).1 = _
    rw [(sliceLoop_built child path hc rest _).local, sliceLoop_dest child path hc rest, List.map_cons, List.append_assoc]
    rfl

/-- what every step keeps, the fold keeps -/
theorem foldl_keeps {α κ γ : Type} (u : α → κ → α) (obs : α → γ) (ks : List κ) (a : α)
    (h : ∀ k ∈ ks, ∀ a, obs (u a k) = obs a) : obs (ks.foldl u a) = obs a :=
  List.foldlRecOn ks u (motive := fun b => obs b = obs a) rfl fun b hb k hk => (h k hk b).trans hb

/-- an update that commutes with the others, seen through an observation the others keep: the fold
    shows what that update alone would -/
theorem foldl_own {α κ γ : Type} (u : α → κ → α) (obs : α → γ) (k : κ)
    (hcomm : ∀ j a, j ≠ k → u (u a j) k = u (u a k) j) (hkeep : ∀ j a, j ≠ k → obs (u a j) = obs a) :
    ∀ (ks : List κ) (a : α), ks.Nodup → k ∈ ks → obs (ks.foldl u a) = obs (u a k)
  | [] => fun _ _ h => by simp at h
  | j :: ks => fun a hnd hk => by
    obtain ⟨hj, hnd⟩ := List.nodup_cons.mp hnd
    rw [List.foldl_cons]
    by_cases hjk : j = k
    · subst hjk
      exact foldl_keeps u obs ks _ fun i hi a => hkeep i a fun e => hj (e ▸ hi)
    · rw [foldl_own u obs k hcomm hkeep ks _ hnd ((List.mem_cons.mp hk).resolve_left (Ne.symm hjk)), hcomm j a hjk, hkeep j _ hjk]

theorem fieldLoop_dest (step : String → DVal → St → Out) (hs : ∀ k d, Tame false (fun st => step k d st)) :
    ∀ (ks : List String) (d : DVal), (fieldLoop step ks d {}).1 = ks.foldl (fun d k => (step k d {}).1) d
  | [], _ => rfl
  | k :: ks, d => by
    show (fieldLoop step ks (step k d {}).1 (step k d {}).2).1 = _
    rw [(fieldLoop_built step hs ks _).local, List.foldl_cons, ← fieldLoop_dest step hs ks]

theorem fieldStep_keeps {γ : Type} (obs : DVal → γ) (env : Env) (m : Mode) (fs : Fields) (tag : Option String) (prov : Prov)
    (path : List String) (key : String) (d : DVal)
    (h : ∀ k fm s, fs.find key = some (k, fm, s) → ∀ c, obs (d.set fm.goName c) = obs d) :
    obs (fieldStep env m fs tag prov path key d).1 = obs d := by
  cases hf : fs.find key with
  | none => simp only [fieldStep, hf]
  | some r => rw [fieldStep_of_find env m tag prov path d hf]; exact h _ _ _ hf _

/-- what a visited field holds after the loop (`fieldLoop_dest`: the fold is its destination): its
    own schema's output on the original value of that field -/
theorem fieldFold_get_own (env : Env) (m : Mode) (fs : Fields) (tag : Option String) (prov : Prov) (path : List String)
    (hinj : fs.GoNamesInj) {key k : String} {fm : FieldMeta} {s : Schema} (hf : fs.find key = some (k, fm, s))
    (ks : List String) (d : DVal) (hnd : ks.Nodup) (hk : key ∈ ks) :
    (ks.foldl (fun d k => (fieldStep env m fs tag prov path k d).1) d).get fm.goName =
      if d.has fm.goName then
        (proc env m s none (path ++ [fieldKeyOf m tag prov fm k]) (fieldInput m prov (fieldKeyOf m tag prov fm k)) (d.get fm.goName) {}).1
      else d.get fm.goName := by
  -- the other visits write other Go fields: they commute with this one and leave its field alone
  rw [foldl_own _ (·.get fm.goName) key (fun j a hj => (fieldStep_comm env m fs tag prov path hinj j key a hj).1)
      (fun j a hj => fieldStep_keeps (·.get fm.goName) env m fs tag prov path j a fun _ _ _ hfj c =>
        DVal.get_set_other a _ _ c (hinj key j _ _ _ _ _ _ hf hfj (Ne.symm hj))) ks d hnd hk,
    fieldStep_of_find env m tag prov path d hf]
  exact DVal.get_set_self _ _ _

end Spec
end Zog
