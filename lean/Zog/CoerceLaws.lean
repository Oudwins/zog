import Zog.Coerce

/-!
# Lemmas about the numeric coercers
Range facts: what `atoi` accepts is a 64-bit integer, `FVal.trunc?` under the two 2^63 guards of `coerceInt`,
and `coerceNum` at `.i32` read as `coerceInt` followed by the int32 range check.
-/

namespace Zog

/-- `strconv.Atoi`: an accepted digit string denotes a number in the 64-bit range (no wrap) -/
theorem atoiBody_in_range (neg : Bool) (cs : List Char) (n : Int) (h : atoiBody neg cs = some n) :
    minInt64 ≤ n ∧ n ≤ maxInt64 := by
  obtain ⟨_, h⟩ := Option.ite_none_left_eq_some.mp h
  split at h
  · cases h
  · obtain ⟨hr, hv⟩ := Option.ite_none_right_eq_some.mp h
    cases hv
    exact hr

theorem pow2_pos (n : Nat) : 0 < pow2 n := Int.pow_pos (by decide)

theorem tdiv_range (m D P : Int) (hD : 0 < D) (h1 : m < P * D) (h2 : -P * D ≤ m) :
    -P ≤ m.tdiv D ∧ m.tdiv D < P := by
  have q1 : m / D < P := Int.ediv_lt_of_lt_mul hD h1
  have q2 : -P ≤ m / D := Int.le_ediv_of_mul_le hD h2
  rw [Int.tdiv_eq_ediv, Int.sign_eq_one_of_pos hD]
  split
  · rw [Int.add_zero]
    exact ⟨q2, q1⟩
  next hm =>
    -- a negative `m` that `D` does not divide: the quotient is one above the floor, which is negative
    have q3 : m / D < 0 := Int.ediv_neg_of_neg_of_pos (Int.not_le.mp fun h => hm (.inl h)) hD
    omega

theorem trunc_in_range (f : FVal) (n : Int) (h : f.trunc? = some n) (h1 : f.geTwo63 = false) (h2 : f.ltNegTwo63 = false) :
    minInt64 ≤ n ∧ n ≤ maxInt64 := by
  cases f with
  | nan => cases h
  | inf _ => cases h
  | nzero => cases h; decide
  | fin m e =>
    cases h
    simp only [FVal.geTwo63, FVal.ltNegTwo63] at h1 h2
    unfold minInt64 maxInt64
    by_cases he : e ≥ 0 <;>
      simp only [he, ↓reduceIte, decide_eq_false_iff_not, ge_iff_le, Int.not_le, Int.not_lt] at h1 h2 ⊢
    · exact ⟨h2, Int.le_sub_one_of_lt h1⟩
    · have := tdiv_range m _ _ (pow2_pos (-e).toNat) h1 h2
      exact ⟨this.1, Int.le_sub_one_of_lt this.2⟩

/-- NaN needs no case of its own: neither guard holds of it and it has no truncation -/
theorem coerceInt_f64 (f : FVal) : coerceInt (.f64 f) = if f.geTwo63 || f.ltNegTwo63 then none else f.trunc? := by
  cases f <;> rfl

theorem coerceNum_i32_eq (ext : Ext) (v : Val) :
    coerceNum ext .i32 v = (coerceInt v).bind fun n => if n < minInt32 ∨ n > maxInt32 then none else some (.int .i32 n) := rfl

/-- Int32: exactly the number the Int coercer produced, provided it is in the int32 range (no `int32(n)` wrap) -/
theorem coerceNum_i32 (ext : Ext) (v : Val) (k : NKind) (n : Int) :
    coerceNum ext .i32 v = some (.int k n) ↔ k = .i32 ∧ coerceInt v = some n ∧ minInt32 ≤ n ∧ n ≤ maxInt32 := by
  rw [coerceNum_i32_eq, Option.bind_eq_some_iff]
  simp only [Option.ite_none_left_eq_some, not_or, Int.not_lt]
  constructor
  · rintro ⟨_, hx, h, ⟨⟩⟩; exact ⟨rfl, hx, h⟩
  · rintro ⟨rfl, hx, h⟩; exact ⟨n, hx, h, rfl⟩

end Zog
